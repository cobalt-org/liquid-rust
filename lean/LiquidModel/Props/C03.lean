/-
  C03 — literal text is preserved; trim markers, raw and comment do exactly their job.

  All theorems are about the executable model of the lexical layer (`Model/Lex.lean`, a transcription of
  the lax grammar of grammar.pest; whitespace table generated from grammar.pest on every run), of
  `TagBlock::escape_liquid` + raw_block.rs / comment_block.rs (`Model/MiniParse.lean`) and of the rendering
  of the renderables `Text`, `RawT`, `Comment` (the nodes `.text`, `.raw`, `.comment` of
  `Model/Render.lean`).  They hold for every input string and every pair of inner matchers `g`
  (`TagInner` / `ExpressionInner`): no generator assumption.
-/
import LiquidModel.Lemmas.Monad
import LiquidModel.Lemmas.C03
import LiquidModel.Model.MiniParse
import LiquidModel.Spec.C03
namespace Liquid.Mini
open Liquid Liquid.Lex

theorem escapeLiquid_skip (endTag : List Char) : ∀ (body : List Elem) (rest : List Tok) (acc : List Char),
    (∀ e ∈ body, isCloser endTag e = false) →
    escapeLiquid endTag (body.map Tok.elem ++ rest) acc = escapeLiquid endTag rest (acc ++ texts body)
  | [], rest, acc, _ => by simp [texts]
  | e :: body, rest, acc, hb => by
    simp only [List.map_cons, List.cons_append, escapeLiquid, hb e (by simp), Bool.false_eq_true, if_false]
    rw [escapeLiquid_skip endTag body rest _ (fun x hx => hb x (by simp [hx]))]
    simp [texts, List.append_assoc]

theorem escapeLiquidOld_verbatim (endTag : List Char) : ∀ (body : List Elem) (cl : Elem) (rest : List Tok) (acc : List Char),
    (∀ e ∈ body, isCloser endTag e = false) → isCloser endTag cl = true →
    escapeLiquidOld endTag (body.map Tok.elem ++ Tok.elem cl :: rest) acc = (.ok (acc ++ texts body), rest)
  | [], cl, rest, acc, _, hc => by simp [escapeLiquidOld, hc, texts]
  | e :: body, cl, rest, acc, hb, hc => by
    have he : isCloser endTag e = false := hb e (by simp)
    simp only [List.map_cons, List.cons_append, escapeLiquidOld, he]
    rw [escapeLiquidOld_verbatim endTag body cl rest (acc ++ e.text) (fun x hx => hb x (by simp [hx])) hc]
    simp [texts, List.append_assoc]

end Liquid.Mini

namespace Liquid.C03
open Liquid Liquid.Lex Liquid.Mini

/-! ### which characters a `-` removes -/

/-- The class matched by one iteration of the grammar's `WHITESPACE*` — over the table *generated from
grammar.pest* — is exactly: space, tab, line feed, carriage return.
(False at the pinned commit: the tab is missing there, D10; patches/C03-tab.diff.) -/
theorem C03_ws_class (c : Char) : isWs c = true ↔ (c = ' ' ∨ c = '\t' ∨ c = '\n' ∨ c = '\r') := by
  simp [isWs, wsAlts]

/-- the executable spec used on the implementation's output has the same whitespace class -/
theorem C03_ws_spec (c : Char) : isWs c = isWsSpec c := by
  rw [Bool.eq_iff_iff, C03_ws_class]
  simp [isWsSpec, or_assoc]

/-- the generated table has the shape that makes `WHITESPACE*` a character-class run -/
theorem C03_ws_table_shape : AltsShape wsAlts := by
  unfold AltsShape
  decide

/-- `WHITESPACE*` exactly as pest runs it (ordered choice of the literal alternatives, repeated) consumes
exactly the maximal run of whitespace characters — the `takeWhile/dropWhile isWs` the lexer is written with. -/
theorem C03_ws_star (s : List Char) : pegStar wsAlts s = skipWs s ∧ wsRun s ++ pegStar wsAlts s = s := by
  have h : pegStar wsAlts s = skipWs s := by
    rw [pegStar_eq_dropWhile wsAlts C03_ws_table_shape]; rfl
  exact ⟨h, by rw [h]; exact wsRun_append_skipWs s⟩

/-- the table of the pinned commit (`WHITESPACE = _{" " | NEWLINE}`) does not contain the tab -/
theorem C03_ws_tab_old_counterexample :
    ([[' '], ['\n'], ['\r', '\n'], ['\r']] : List (List Char)).contains ['\t'] = false := by
  decide

/-! ### the lexer is total and its elements tile the input -/

/-- Every input lexes: the element texts, concatenated in order, are the input; no element is empty; and
`length + 1` steps are enough (more fuel changes nothing) — so the loop of `LaxLiquidFile` always
terminates by consuming the whole input. -/
theorem C03_lex_total (g : Inner) (s : List Char) :
    (lexLax g s).flatMap Elem.text = s ∧ (∀ e ∈ lexLax g s, e.text ≠ []) ∧
    (∀ k, s.length < k → lexFuel g k s = lexLax g s) :=
  ⟨lexLax_tile g s, lexFuel_nonempty g _ s, fun k hk => lexFuel_stable g k _ s hk (by omega)⟩

/-- Tiling: the spans of the elements, in order, are the input — every byte belongs to exactly one element. -/
theorem C03_tiling (g : Inner) (s : List Char) : (lexLax g s).flatMap Elem.text = s := lexLax_tile g s

/-- … hence each element sits in the source exactly between the texts of the elements before and after it -/
theorem C03_tiling_split (g : Inner) (s : List Char) (es₁ es₂ : List Elem) (e : Elem)
    (h : lexLax g s = es₁ ++ e :: es₂) : s = texts es₁ ++ e.text ++ texts es₂ := by
  rw [← lexLax_tile g s, h]
  simp [texts]

example : lexLax stdInner "a {{- 1 }}b".toList =
    [.raw ['a'], .expr { pre := [' '], trimL := true, ws1 := [' '], inner := ['1', ' '], ws2 := [], trimR := false, post := [] },
     .raw ['b']] := by decide +kernel

/-- `Text` (what a `Raw` element becomes) writes its slice verbatim and touches nothing else -/
theorem C03_text_verbatim (fuel : Nat) (env : Env) (t : Str) (rt : Rt) (w : W) (hb : w.budget = none) :
    ∃ w', renderN (fuel + 1) env (.text t) rt w = (.ok (), rt, w') ∧ w'.text = w.text ++ t := by
  obtain ⟨w', h, -, ht⟩ := M.run_emit (s := t) hb rt
  exact ⟨w', by rw [renderN]; exact h, ht⟩

/-! ### a template without markup is one text element and renders to itself -/

/-- no `{{` / `{%` ⇒ the whole input is one `Raw` element (or nothing, for the empty input) -/
theorem C03_plain_identity (g : Inner) (s : List Char) (h : hasOpen s = false) :
    lexLax g s = if s = [] then [] else [.raw s] := by
  cases s with
  | nil => simp [lexLax_nil]
  | cons c r => simp [lexLax_plain g c r h]

/-- … which parses to one `Text` and renders to the input, whatever the data -/
theorem C03_plain_renders_to_itself (s : List Char) (h : hasOpen s = false) (fuel : Nat) (env : Env) (globals : Obj) :
    ∃ t, parseText s = .ok t ∧ renderTop (fuel + 1) env t globals = .ok s := by
  cases s with
  | nil =>
    refine ⟨[], ?_, ?_⟩
    · simp [parseText, lexLax_nil, parseElems, toks, parseTopF]
    · simp [renderTop, renderT, renderList, W.text, M.run_pure]
  | cons c r =>
    refine ⟨[.text (c :: r)], ?_, ?_⟩
    · have hl := lexLax_plain stdInner c r h
      unfold parseText
      rw [hl]
      simp [parseElems, toks, parseTopF, parseElem]
    · simp [renderTop, renderT, renderList, renderN, M.run_bind, M.emit, W.write, W.text, Rt.build, Rt.regs, Stack.regs]

example : hasOpen "a { b } % c \" {-".toList = false := by decide

/-! ### trim markers -/

/-- Left maximality: the element right before one whose left delimiter carries `-` ends in
whitespace only if it is itself a tag / output element whose right delimiter carries `-` — which has then
absorbed that whitespace (PEG is greedy left to right), so it is removed either way.  Before any other
element (text, invalid character, markup without `-`) no whitespace is left in front of the `-`. -/
theorem C03_trim_left_maximal (g : Inner) (s : List Char) (es₀ es₂ : List Elem) (p e : Elem) (m : Markup)
    (h : lexLax g s = es₀ ++ p :: e :: es₂) (hm : e = .tag m ∨ e = .expr m) (htl : m.trimL = true)
    (x : Char) (hx : p.text.getLast? = some x) (hw : isWs x = true) :
    ∃ m', (p = .tag m' ∨ p = .expr m') ∧ m'.trimR = true := by
  obtain ⟨s₁, -, h1⟩ := lexLax_split g es₀ (p :: e :: es₂) s h
  obtain ⟨c, r, -, rfl, hr1⟩ := lexLax_head g h1
  obtain ⟨c2, r2, hc2, he2, -⟩ := lexLax_head g hr1
  -- the rule that produced `e` matches right after `p` with its `-` alternative: it would match at `x` too
  obtain ⟨o, cl, inner, hrule, hmk⟩ := lexOne_markup he2 hm
  rw [← hc2] at hmk
  obtain ⟨hst, hmx⟩ := markupAt_ws_cons hw hmk htl
  -- a markup element without `-` on the right ends in `}`, which is no whitespace
  have markup : ∀ {o c inner s rest} {m' : Markup} (o' c' : Char), markupAt o c inner s = some (m', rest) →
      (m'.text o' c').getLast? = some x → m'.trimR = true := by
    intro o c inner s rest m' o' c' hp hl
    cases htr : m'.trimR
    · simp [Markup.text, closeDelim, htr, (markupAt_spec hp).post_none htr] at hl
      rw [← hl] at hw; cases hw
    · rfl
  rcases lexOne_cases g c r with ⟨m', rest, hp, e⟩ | ⟨hne, ⟨m', rest, hp, e⟩ | ⟨hnt, ⟨-, e⟩ | ⟨-, e⟩⟩⟩ <;>
    rw [e] at hx hst hmx ⊢
  · exact ⟨m', .inr rfl, markup _ _ hp hx⟩
  · exact ⟨m', .inl rfl, markup _ _ hp hx⟩
  · -- an invalid character: it is `x`, and the rule would have matched there
    obtain rfl : c = x := by simpa [Elem.text] using hx
    rcases hrule with e | e <;> cases e
    · simp [hnt] at hmx
    · simp [hne] at hmx
  · -- a text: `x` is its last character, and no position inside a text starts a delimiter
    obtain ⟨ini, hini⟩ := List.getLast?_eq_some_iff.mp hx
    have := scanRaw_noStart (c :: r) ini [x] hini (by simp)
    rcases hrule with e | e <;> cases e <;> simp [isStart, hst] at this

/-- Trim-exact.  For every tag / output element `m` of the lexed input:
 * it absorbs only whitespace, and on a side only if that side's delimiter carries `-`
   (`trimL = false → pre = []`, `trimR = false → post = []`);
 * with `-` on the right delimiter the absorbed run is maximal: what follows does not start with whitespace;
 * with `-` on the left delimiter the absorbed run is maximal: a text element right before it does not end
   in whitespace.
 Together with tiling: a `-` removes exactly the whitespace run touching that side, nothing else. -/
theorem C03_trim_exact (g : Inner) (s : List Char) (es₁ es₂ : List Elem) (e : Elem) (m : Markup)
    (h : lexLax g s = es₁ ++ e :: es₂) (hm : e = .tag m ∨ e = .expr m) :
    (∀ x ∈ m.pre, isWs x = true) ∧ (∀ x ∈ m.post, isWs x = true) ∧
    (m.trimL = false → m.pre = []) ∧ (m.trimR = false → m.post = []) ∧
    (m.trimR = true → ∀ x, (texts es₂).head? = some x → isWs x = false) ∧
    (m.trimL = true → ∀ es₀ t, es₁ = es₀ ++ [.raw t] → ∀ x, t.getLast? = some x → isWs x = false) := by
  obtain ⟨o, c, s₂, sp, _⟩ := lexLax_markup g h hm
  refine ⟨sp.pre_ws, sp.post_ws, sp.pre_none, sp.post_none, sp.post_max, ?_⟩
  intro htl es₀ t hes x hx
  subst hes
  have h' : lexLax g s = es₀ ++ .raw t :: e :: es₂ := by simpa using h
  -- whitespace there would have to belong to a markup element, and `.raw t` is none
  cases hw : isWs x
  · rfl
  · obtain ⟨m', hp | hp, -⟩ := C03_trim_left_maximal g s es₀ es₂ _ e m h' hm htl x hx hw <;> cases hp

-- (the examples avoid the tab, so that they do not depend on the table entry D10 is about)
example : (lexLax stdInner "{{ 1 -}} \n {{- 2 }}".toList).map Elem.text =
    ["{{ 1 -}} \n ".toList, "{{- 2 }}".toList] := by decide +kernel

example : lexLax stdInner "a \r{{- 1 -}}\n b".toList =
    [.raw ['a'], .expr { pre := [' ', '\r'], trimL := true, ws1 := [' '], inner := ['1', ' '], ws2 := [], trimR := true, post := ['\n', ' '] },
     .raw ['b']] := by decide +kernel

/-! ### raw blocks -/

/-- Raw verbatim.  Whatever the body lexes into (valid, invalid, unterminated markup): `escape_liquid` returns
exactly the concatenation of the element texts — i.e. by tiling the source — between the opening tag and
the first argument-less `{% endraw %}`, and only a `{%- endraw` removes the whitespace run before it. -/
theorem C03_raw_verbatim (endTag : List Char) (body : List Elem) (cl : Elem) (rest : List Tok)
    (hb : ∀ e ∈ body, isCloser endTag e = false) (hc : isCloser endTag cl = true) :
    escapeLiquid endTag (body.map Tok.elem ++ Tok.elem cl :: rest) [] =
      (.ok (if closerTrim cl then stripRightWs (texts body) else texts body), rest) := by
  rw [escapeLiquid_skip endTag body _ [] hb]
  simp [escapeLiquid, hc]

/-- in the source, that body is the text between the two tags' spans -/
theorem C03_raw_source (g : Inner) (s : List Char) (es₁ body es₂ : List Elem) (op cl : Elem)
    (h : lexLax g s = es₁ ++ op :: (body ++ cl :: es₂)) :
    s = texts es₁ ++ op.text ++ texts body ++ cl.text ++ texts es₂ := by
  rw [C03_tiling_split g s es₁ _ op h]
  simp [texts]

/-- an unterminated raw block is a parse error, never the `panic!` at the end of `escape_liquid` -/
theorem C03_raw_unclosed (endTag : List Char) (body : List Elem) (hb : ∀ e ∈ body, isCloser endTag e = false) :
    escapeLiquid endTag (toks body) [] = (.err, []) ∧
    ∀ (es : List Elem) (rest : List Tok) (acc : List Char) (site : String),
      (escapeLiquid endTag (es.map Tok.elem ++ Tok.eoi :: rest) acc).1 ≠ .panic site := by
  refine ⟨by rw [toks, escapeLiquid_skip endTag body _ [] hb]; rfl, fun es rest => ?_⟩
  -- with `EOI` still ahead the scan ends there at the latest, as an error
  induction es with
  | nil => intro acc site; simp [escapeLiquid]
  | cons e es ih =>
    intro acc site
    simp only [List.map_cons, List.cons_append, escapeLiquid]
    split
    · simp
    · exact ih _ site

/-- `escape_liquid` at the pinned commit never strips: whitespace swallowed by a markup look-alike ending in
`-}}` survives a following `{%- endraw %}` although that delimiter carries `-` (patches/C03-endraw-trim.diff) -/
theorem C03_raw_old_counterexample :
    let es := lexLax stdInner "{% raw %}{{ x -}} {%- endraw %}".toList
    (escapeLiquidOld "endraw".toList (toks (es.drop 1)) []).1 = .ok "{{ x -}} ".toList ∧
    (escapeLiquid "endraw".toList (toks (es.drop 1)) []).1 = .ok "{{ x -}}".toList := by
  decide +kernel

example : (match parseText "{% raw %} {{ x }}{% if %} {%- endraw %}!".toList with
    | .ok [.raw b, .text t] => b == " {{ x }}{% if %}".toList && t == ['!']
    | _ => false) = true := by decide +kernel

/-! ### comment blocks -/

/-- Comment is a no-op: whatever its body holds, a comment block that parses yields the `Comment` renderable … -/
theorem C03_comment_parse (n : Nat) (it it' : List Tok) (nd : Node)
    (h : parseComment n it = (.ok nd, it')) : nd = .comment := by
  induction n generalizing it it' nd with
  | zero => cases h
  | succ n ih =>
    unfold parseComment at h
    split at h
    · cases h
    · cases h
    · split at h
      · simp only at h
        split at h
        · -- the end tag: this is where `Comment` is built
          split at h <;> cases h
          rfl
        · split at h
          · -- a nested comment: parsed, its errors are the block's
            split at h
            · exact ih _ _ _ h
            · next hne => exact absurd h (hne nd it')
          · -- any other tag: parsed for its panics only
            split at h
            · cases h
            · cases h
            · exact ih _ _ _ h
      · exact ih _ _ _ h

/-- … which writes nothing and leaves the runtime state unchanged. -/
theorem C03_comment_noop (fuel : Nat) (env : Env) (rt : Rt) (w : W) :
    renderN (fuel + 1) env .comment rt w = (.ok (), rt, w) := by
  simp [renderN]

example : (match parseText "a{% comment %} {{ ! }} {% assign v = 1 %}{% increment c %}{% comment %}x{% endcomment %} {% endcomment %}b".toList with
    | .ok [.text a, .comment, .text b] => a == ['a'] && b == ['b']
    | _ => false) = true := by decide +kernel

end Liquid.C03
