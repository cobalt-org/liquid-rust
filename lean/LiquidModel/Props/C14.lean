/-
  C14 — array filters neither invent nor lose elements beyond their contract.
  Model: `Model/ArrFilters.lean`; the hypothesis `TotalPreorderOn` and the executable checks:
  `Spec/C14.lean`.

  The sort comparator modelled is the repaired one (D8, `patches/C14-sort-total-preorder.diff`);
  `sortLeOld` is the comparator of the pinned commit.
-/
import LiquidModel.Lemmas.C14
namespace Liquid.C14
open Liquid Liquid.Arr List

/-! ### sort, sort_natural, reverse: permutations — for EVERY comparator / key / input -/

/-- `sort` (with or without a property) only rearranges. No hypothesis on the comparator. -/
theorem C14_sort_perm (key : V → V) (xs : List V) : (sortByKey key xs).Perm xs :=
  mergeSort_perm _ _

/-- `sort_natural` only rearranges, for every lower-casing table. -/
theorem C14_sort_natural_perm (lower : Str → Str) (key : V → V) (xs : List V) :
    (sortNaturalBy lower key xs).Perm xs := by
  rw [sortNaturalBy_eq]; exact mergeSort_perm _ _

/-- `reverse` only rearranges, and `ys[i] = xs[n-1-i]`. -/
theorem C14_reverse_perm (xs : List V) :
    ∃ ys, reverseFilter (.arr xs) [] = .ok (.arr ys) ∧ ys.Perm xs ∧ ys.length = xs.length ∧
      ∀ i, i < xs.length → ys[i]? = xs[xs.length - 1 - i]? := by
  refine ⟨xs.reverse, rfl, reverse_perm xs, length_reverse, ?_⟩
  intro i hi
  rw [getElem?_reverse hi]

/-- The filters themselves: whatever the input value and arguments, `sort` / `sort_natural` either
report an error or return an array that is a rearrangement of the input sequence (nil = empty,
scalar = singleton); they never panic. -/
theorem C14_sort_filter_perm (input : V) (args : List V) :
    sortFilter input args = .err ∨
    ∃ ys, sortFilter input args = .ok (.arr ys) ∧ ys.Perm (asSequence input) := by
  unfold sortFilter
  match args with
  | [] => exact Or.inr ⟨_, rfl, C14_sort_perm _ _⟩
  | [p] =>
    by_cases h : (asSequence input).all isObj
    · exact Or.inr ⟨sortByKey (propOf p.render) (asSequence input), by simp [h], C14_sort_perm _ _⟩
    · exact Or.inl (by simp [h])
  | _ :: _ :: _ => exact Or.inl rfl

theorem C14_sort_natural_filter_perm (lower : Str → Str) (input : V) (args : List V) :
    sortNaturalFilter lower input args = .err ∨
    ∃ ys, sortNaturalFilter lower input args = .ok (.arr ys) ∧ ys.Perm (asSequence input) := by
  unfold sortNaturalFilter
  match args with
  | [] => exact Or.inr ⟨_, rfl, C14_sort_natural_perm _ _ _⟩
  | [p] =>
    by_cases h : (asSequence input).all isObj
    · exact Or.inr ⟨sortNaturalBy lower (propOf p.render) (asSequence input), by simp [h], C14_sort_natural_perm _ _ _⟩
    · exact Or.inl (by simp [h])
  | _ :: _ :: _ => exact Or.inl rfl

/-! ### sorted, stable, idempotent — under the total-preorder hypothesis -/

/-- the executable check of the hypothesis is exact -/
theorem C14_totalPreorderOnB_iff {α : Type} (xs : List α) (le : α → α → Bool) :
    totalPreorderOnB xs le = true ↔ TotalPreorderOn xs le := by
  simp only [totalPreorderOnB, all_eq_true, Bool.and_eq_true, Bool.or_eq_true, Bool.not_eq_true',
    Bool.and_eq_false_iff]
  constructor
  · intro h
    refine ⟨fun a ha b hb => ?_, fun a ha b hb c hc hab hbc => ?_⟩
    · simpa using (h a ha b hb).1
    · rcases (h a ha b hb).2 c hc with (h1 | h1) | h1
      · simp [hab] at h1
      · simp [hbc] at h1
      · exact h1
  · intro h a ha b hb
    refine ⟨by simpa using h.total a ha b hb, fun c hc => ?_⟩
    by_cases hab : le a b = true
    · by_cases hbc : le b c = true
      · exact Or.inr (h.trans a ha b hb c hc hab hbc)
      · exact Or.inl (Or.inr (by simpa using hbc))
    · exact Or.inl (Or.inl (by simpa using hab))

/-- for any comparator (this is the statement used for `sort`, for `sort_natural` and for `std`) -/
theorem C14_mergeSort_sorted_stable_idem {α : Type} (le : α → α → Bool) (xs : List α)
    (h : TotalPreorderOn xs le) :
    (xs.mergeSort le).Pairwise (fun a b => le a b = true) ∧
    (∀ ys, ys <+ xs → ys.Pairwise (fun a b => le a b = true) → ys <+ xs.mergeSort le) ∧
    (xs.mergeSort le).mergeSort le = xs.mergeSort le :=
  ⟨sorted_of_preorderOn h, fun _ hs hp => stable_of_preorderOn h hs hp, idem_of_preorderOn h⟩

/-- **Sorted, stable, idempotent.**  If the comparator is a total preorder on the elements of the
array, the sort result is non-decreasing; every non-decreasing subsequence of the input (in
particular every pair of elements the comparator cannot tell apart) keeps its order; and sorting
again changes nothing. -/
theorem C14_sort_sorted_stable_idem (key : V → V) (xs : List V)
    (h : TotalPreorderOn xs (fun a b => sortLe (key a) (key b))) :
    (sortByKey key xs).Pairwise (fun a b => sortLe (key a) (key b) = true) ∧
    (∀ ys, ys <+ xs → ys.Pairwise (fun a b => sortLe (key a) (key b) = true) → ys <+ sortByKey key xs) ∧
    sortByKey key (sortByKey key xs) = sortByKey key xs :=
  C14_mergeSort_sorted_stable_idem _ xs h

/-- **Non-decreasing for mutually comparable elements**, in the property's own reading: in the
result no element is followed by one that is smaller — where "smaller" means: comparable by
`partial_cmp` and `Less`, or non-nil after nil (`cmpGt`, which does not mention the kind ranks of
the repair). -/
theorem C14_sort_non_decreasing (key : V → V) (xs : List V)
    (h : TotalPreorderOn xs (fun a b => sortLe (key a) (key b))) :
    (sortByKey key xs).Pairwise (fun a b => cmpGt (key a) (key b) = false) :=
  (sorted_of_preorderOn h).imp fun hab => not_cmpGt_of_sortLe _ _ hab

/-- **`sort_natural` needs no hypothesis**: its comparator (nil last, otherwise the case-folded
rendering in code-point order) is a total preorder on all values, so the result is always sorted by
the case-folded key, stable (strings differing only in case keep their input order) and idempotent. -/
theorem C14_sort_natural_sorted_stable_idem (lower : Str → Str) (key : V → V) (xs : List V) :
    let le := fun a b => casecmpLe (casecmpKey lower (key a)) (casecmpKey lower (key b))
    (sortNaturalBy lower key xs).Pairwise (fun a b => le a b = true) ∧
    (∀ ys, ys <+ xs → ys.Pairwise (fun a b => le a b = true) → ys <+ sortNaturalBy lower key xs) ∧
    sortNaturalBy lower key (sortNaturalBy lower key xs) = sortNaturalBy lower key xs := by
  simp only [sortNaturalBy_eq]
  exact C14_mergeSort_sorted_stable_idem _ xs (natural_preorderOn lower key xs)

/-- **Uniqueness of the stable sort** — the tie between `std`'s `sort_by` and the model.  Tag every
input element with its position.  Any rearrangement of the tagged input that is ordered by the
comparator and, among elements the comparator cannot tell apart, by input position (= any correct
stable sort) is, untagged, exactly the model's result. -/
theorem C14_stable_unique {α : Type} (le : α → α → Bool) (xs : List α) (h : TotalPreorderOn xs le)
    (ys : List (α × Nat)) (hperm : ys.Perm xs.zipIdx)
    (hsorted : ys.Pairwise (fun a b => zipIdxLE le a b = true)) :
    ys.map (·.1) = xs.mergeSort le := by
  have hagree : ∀ p, p ∈ xs.zipIdx → ∀ q, q ∈ xs.zipIdx →
      zipIdxLE (extLe xs le) p q = zipIdxLE le p q := by
    intro p hp q hq
    have hp := fst_mem_of_mem_zipIdx hp
    have hq := fst_mem_of_mem_zipIdx hq
    simp only [zipIdxLE, extLe_agree xs le hp hq, extLe_agree xs le hq hp]
  have hm := pairwise_mergeSort (le := zipIdxLE (extLe xs le))
    (zipIdxLE_trans (extLe_trans h)) (zipIdxLE_total (extLe_total h)) xs.zipIdx
  have hys : ys.Pairwise (fun a b => zipIdxLE (extLe xs le) a b = true) := by
    refine hsorted.imp_of_mem ?_
    intro a b ha hb hab
    rwa [hagree a (hperm.mem_iff.mp ha) b (hperm.mem_iff.mp hb)]
  -- both are sorted rearrangements of `xs.zipIdx`, on which (`le`, then index) is antisymmetric:
  -- an index determines its element
  have heq : ys = mergeSort xs.zipIdx (zipIdxLE (extLe xs le)) := by
    refine Perm.eq_of_pairwise (le := fun a b => zipIdxLE (extLe xs le) a b = true) ?_ hys hm
      (hperm.trans (mergeSort_perm _ _).symm)
    intro a b ha hb hab hba
    have ha' := hperm.mem_iff.mp ha
    have hb' : b ∈ xs.zipIdx := by rwa [mem_mergeSort] at hb
    have hidx : a.2 = b.2 := by
      simp only [zipIdxLE] at hab hba
      by_cases h1 : extLe xs le a.1 b.1 = true <;> by_cases h2 : extLe xs le b.1 a.1 = true <;>
        simp [h1, h2] at hab hba
      omega
    have h1 := mem_zipIdx_iff_getElem?.mp ha'
    have h2 := mem_zipIdx_iff_getElem?.mp hb'
    rw [hidx] at h1
    have : a.1 = b.1 := by rw [h1] at h2; exact Option.some.inj h2
    exact Prod.ext this hidx
  rw [heq, mergeSort_zipIdx, ← mergeSort_ext]

/-- **nil last** (`sort`): once a nil (or a missing / nil property) has been emitted only such
elements follow. -/
theorem C14_nil_last (key : V → V) (xs : List V)
    (h : TotalPreorderOn xs (fun a b => sortLe (key a) (key b))) :
    (sortByKey key xs).Pairwise (fun a b => (key a).isNil = true → (key b).isNil = true) := by
  refine (sorted_of_preorderOn h).imp ?_
  intro a b hab ha
  cases hk : key a with
  | nil => rw [hk, sortLe_nil_left] at hab; exact hab
  | _ => simp [hk, V.isNil] at ha

/-- nil last for `sort_natural`, unconditionally -/
theorem C14_nil_last_natural (lower : Str → Str) (key : V → V) (xs : List V) :
    (sortNaturalBy lower key xs).Pairwise (fun a b => (key a).isNil = true → (key b).isNil = true) := by
  rw [sortNaturalBy_eq]
  refine (sorted_of_preorderOn (natural_preorderOn lower key xs)).imp ?_
  intro a b hab ha
  simp only [casecmpKey, ha, if_true, casecmpLe_none_left] at hab
  by_cases hb : (key b).isNil = true
  · exact hb
  · simp [hb] at hab

/-! ### the hypothesis holds for the repaired comparator on the common value kinds -/

/-- The repaired `sort` comparator is a total preorder on every array whose (keys of the) elements
are integers, strings, booleans, dates, nils and state markers in ANY mixture. -/
theorem C14_preorder_ints_strings_mixed (key : V → V) (xs : List V)
    (h : ∀ v, v ∈ xs → nice false (key v) = true) :
    TotalPreorderOn xs (fun a b => sortLe (key a) (key b)) :=
  preorderOn_of_coherent false key xs h

/-- … and on every mixture of floats (NaN and infinities included), strings, booleans, dates, nils. -/
theorem C14_preorder_floats_strings_mixed (key : V → V) (xs : List V)
    (h : ∀ v, v ∈ xs → nice true (key v) = true) :
    TotalPreorderOn xs (fun a b => sortLe (key a) (key b)) :=
  preorderOn_of_coherent true key xs fun v hv => nice2_of_nice_true (h v hv)

/-- … and on every mixture of floats with integers of absolute value below 2^53 (where `i64 as f64`
is exact), strings, booleans, dates, nils.  Beyond 2^53 the implementation compares an integer
with a float after rounding, `Equal` stops being transitive (`2^53 == 2^53.0 == 2^53+1`) and the
hypothesis fails — see `C14_int_float_counterexample`. -/
theorem C14_preorder_small_ints_floats_mixed (key : V → V) (xs : List V)
    (h : ∀ v, v ∈ xs → nice2 (key v) = true) :
    TotalPreorderOn xs (fun a b => sortLe (key a) (key b)) :=
  preorderOn_of_coherent true key xs h

/-- 2^53 as an `f64` -/
def f2p53 : V := .sc (.flt { bits := 0x4340000000000000 })

/-- **Residual inconsistency (open finding).**  `2^53+1 == 2^53.0 == 2^53` but `2^53+1 > 2^53`:
`partial_cmp` itself is inconsistent inside the number kind, the repaired comparator inherits it,
and `sort_by` can still panic on long arrays of this shape (harness kind `residual-int-float`). -/
theorem C14_int_float_counterexample :
    ¬ TotalPreorderOn [V.sc (.int 9007199254740993), f2p53, V.sc (.int 9007199254740992)] sortLe := by
  intro h
  have := h.trans (V.sc (.int 9007199254740993)) (by simp) f2p53 (by simp)
    (V.sc (.int 9007199254740992)) (by simp) (by decide +kernel) (by decide +kernel)
  exact absurd this (by decide +kernel)

/-- Consequently: an all-integer (all-string, integer/string/nil-mixed …) array is sorted in
non-decreasing order, stably, idempotently, nils last. -/
theorem C14_sort_mixed_scalars (xs : List V) (h : ∀ v, v ∈ xs → nice false v = true) :
    (sortByKey id xs).Pairwise (fun a b => sortLe a b = true) ∧
    sortByKey id (sortByKey id xs) = sortByKey id xs ∧
    (sortByKey id xs).Pairwise (fun a b => a.isNil = true → b.isNil = true) := by
  have hp := C14_preorder_ints_strings_mixed id xs h
  exact ⟨(C14_sort_sorted_stable_idem id xs hp).1, (C14_sort_sorted_stable_idem id xs hp).2.2,
    C14_nil_last id xs hp⟩

/-- on integers the comparator is `≤` -/
theorem C14_sortLe_int (x y : Int) : sortLe (.sc (.int x)) (.sc (.int y)) = decide (x ≤ y) := by
  show (compare x y != .gt) = _
  rw [ne_gt_eq_isLE, Bool.eq_iff_iff, Ordering.isLE_iff_ne_gt, Int.compare_eq_gt, decide_eq_true_eq]
  omega

/-- **D8.**  The comparator of the pinned commit (incomparable ⇒ `Equal`) is not transitive:
`1 ≤ "a"`, `"a" ≤ 0`, but not `1 ≤ 0` — so it is no total preorder on `[1, "a", 0]`, the
precondition of `sort_by` fails, and `std` panics on longer arrays of this shape (replayed on the
implementation by the `d8-*` cases of the harness). -/
theorem C14_sort_old_counterexample :
    ¬ TotalPreorderOn [V.sc (.int 1), V.sc (.str ['a']), V.sc (.int 0)] sortLeOld := by
  intro h
  have := h.trans (V.sc (.int 1)) (by simp) (V.sc (.str ['a'])) (by simp) (V.sc (.int 0)) (by simp)
    (by rfl) (by rfl)
  exact absurd this (by decide)

/-- the repaired comparator on the same witness -/
theorem C14_sort_repaired_witness :
    sortByKey id [V.sc (.int 1), V.sc (.str ['a']), V.sc (.int 0)]
      = [V.sc (.int 0), V.sc (.int 1), V.sc (.str ['a'])] :=
  -- `mergeSort` is by well-founded recursion and does not evaluate.  The claimed result, each element
  -- with its input position, is a rotation of the tagged input and is sorted: it is the stable sort.
  (C14_stable_unique _ [V.sc (.int 1), V.sc (.str ['a']), V.sc (.int 0)]
    (C14_preorder_ints_strings_mixed id _ (by decide))
    [(V.sc (.int 0), 2), (V.sc (.int 1), 0), (V.sc (.str ['a']), 1)]
    (perm_append_comm (l₁ := [_]) (l₂ := [_, _])) (by decide)).symm

/-! ### uniq -/

/-- **First occurrences.**  Reading the array left to right, the next element is dropped iff it is
equal (`value_eq`, kept element on the left) to an element kept so far, otherwise it is appended. -/
theorem C14_uniq_snoc (pre : List V) (x : V) :
    uniq (pre ++ [x]) = if (uniq pre).any (fun k => valueEq k x) then uniq pre else uniq pre ++ [x] := by
  unfold uniq
  rw [uniqFrom_append]
  simp only [nil_append, uniqFrom]
  split <;> simp

/-- `uniq` returns a subsequence of its input, pairwise non-equal; and every input element is
either kept or equal to a kept one. -/
theorem C14_uniq (xs : List V) :
    uniq xs <+ xs ∧
    (uniq xs).Pairwise (fun a b => valueEq a b = false) ∧
    ∀ x, x ∈ xs → x ∈ uniq xs ∨ ∃ k, k ∈ uniq xs ∧ valueEq k x = true := by
  unfold uniq
  refine ⟨uniqFrom_sublist [] xs, (uniqFrom_distinct [] xs).1, fun x hx => ?_⟩
  rcases uniqFrom_covers [] xs x hx with ⟨k, hk, hkx⟩ | h
  · exact Or.inr ⟨k, by simpa using hk, hkx⟩
  · exact Or.inl h

/-- every dropped element equals an EARLIER kept one: in `pre ++ x :: post`, if `x` is not emitted at
this position then a kept element of `pre` equals it; and what is kept of `pre` does not depend on
what follows. -/
theorem C14_uniq_dropped (pre post : List V) (x : V) :
    uniq (pre ++ x :: post) =
      uniq pre ++ (if (uniq pre).any (fun k => valueEq k x) then [] else [x]) ++
        uniqFrom (uniq (pre ++ [x])) post := by
  rw [append_cons]
  unfold uniq
  rw [uniqFrom_append [] (pre ++ [x]) post, uniqFrom_append [] pre [x]]
  simp only [nil_append, uniqFrom]

theorem C14_uniq_filter (xs : List V) (args : List V) :
    uniqFilter (.arr xs) args = (if args.isEmpty then .ok (.arr (uniq xs)) else .err) := by
  cases args <;> rfl

/-! ### compact, concat -/

/-- **compact removes exactly the nils**: the result is the input with the nil elements deleted,
order and multiplicity of everything else untouched. -/
theorem C14_compact (xs : List V) :
    ∃ ys, compactFilter (.arr xs) [] = .ok (.arr ys) ∧
      ys = xs.filter (fun v => !v.isNil) ∧ ys <+ xs ∧ (∀ v, v ∈ ys → v.isNil = false) ∧
      (∀ v, v ∈ xs → v.isNil = false → v ∈ ys) ∧
      ys.length + xs.countP (fun v => v.isNil) = xs.length := by
  refine ⟨_, rfl, rfl, filter_sublist, ?_, ?_, ?_⟩
  · intro v hv; simpa using (mem_filter.mp hv).2
  · intro v hv hn; exact mem_filter.mpr ⟨hv, by simp [hn]⟩
  · have h1 := length_eq_countP_add_countP (fun v : V => v.isNil) (l := xs)
    have h2 : countP (fun a : V => decide ¬a.isNil = true) xs = countP (fun v : V => !v.isNil) xs := by
      congr 1; funext v; cases v.isNil <;> rfl
    rw [← countP_eq_length_filter]
    omega

/-- with a property: all elements must be objects, and exactly those whose property is missing or
nil are removed -/
theorem C14_compact_property (xs : List V) (p : V) (h : xs.all isObj = true) :
    compactFilter (.arr xs) [p] =
      .ok (.arr (xs.filter fun v => match propGet? p.render v with | some w => !w.isNil | none => false)) := by
  simp only [compactFilter, h, Bool.not_true, Bool.false_eq_true, if_false]
  congr 3
  funext v
  cases propGet? p.render v <;> simp

/-- **concat**: the input followed by the argument; lengths add up. -/
theorem C14_concat_len (xs ys : List V) :
    ∃ zs, concatFilter (.arr xs) [.arr ys] = .ok (.arr zs) ∧ zs = xs ++ ys ∧
      zs.length = xs.length + ys.length :=
  ⟨_, rfl, rfl, length_append⟩

/-! ### map, where -/

/-- **map** returns, in order, exactly the property values of the objects that have the property. -/
theorem C14_map (xs : List V) (p : V) :
    mapFilter (.arr xs) [p] = .ok (.arr (xs.filterMap fun v =>
      match v with
      | .obj kvs => objGet kvs p.render
      | _ => none)) := rfl

/-- **where** on an array of objects returns, in order, exactly the objects that have the property
with a truthy value (no target) / a value equal to the target. -/
theorem C14_where (xs : List V) (p : V) (target : Option V) (h : xs.all isObj = true) :
    whereFilter (.arr xs) (p :: target.toList) =
      .ok (.arr (xs.filter fun v =>
        match v with
        | .obj kvs =>
          (match objGet kvs p.render with
           | none => false
           | some w =>
             match target with
             | none => w.queryState .truthy
             | some t => valueEq t w)
        | _ => false)) := by
  -- non-objects are dropped on both sides
  have hgo : ∀ r : List V,
      ((r.filterMap asObj?).filter (whereKeep p.render target) |>.map V.obj) =
      r.filter fun v =>
        match v with
        | .obj kvs => whereKeep p.render target kvs
        | _ => false := by
    intro r
    induction r with
    | nil => rfl
    | cons v r ih =>
      cases v with
      | obj kvs =>
        simp only [filterMap_cons, asObj?, filter_cons]
        by_cases hk : whereKeep p.render target kvs = true <;> simp [hk, ih]
      | _ => exact ih
  have hshape : whereFilter (.arr xs) (p :: target.toList) =
      .ok (.arr (((asSequence (.arr xs)).filterMap asObj?).filter (whereKeep p.render target) |>.map V.obj)) := by
    cases target <;> simp [whereFilter, h]
  rw [hshape]
  simp only [asSequence]
  rw [hgo xs]
  rfl

/-- an array containing a non-object is answered with nil, not with an error or a panic -/
theorem C14_where_non_objects (xs : List V) (p : V) (rest : List V) (hr : rest.length ≤ 1)
    (h : xs.all isObj = false) : whereFilter (.arr xs) (p :: rest) = .ok .nil := by
  match rest, hr with
  | [], _ => simp [whereFilter, h]
  | [_], _ => simp [whereFilter, h]

/-! ### first, last, size, slice, join agree with indexing -/

theorem C14_first_last_index (xs : List V) :
    firstFilter (.arr xs) [] = .ok ((xs[0]?).getD .nil) ∧
    lastFilter (.arr xs) [] = .ok ((xs[xs.length - 1]?).getD .nil) ∧
    sizeFilter (.arr xs) [] = .ok (.sc (.int xs.length)) := by
  refine ⟨?_, ?_, rfl⟩
  · simp [firstFilter, head?_eq_getElem?]
  · simp [lastFilter, getLast?_eq_getElem?]

/-- **slice** with an in-range start: `len` elements from the start (or what is left), element `k`
of the result is element `start + k` of the input; a negative offset counts from the end. -/
theorem C14_slice_index (xs : List V) (off len : Int) (hlen : 1 ≤ len)
    (hoff : -(xs.length : Int) ≤ off) (hno : inI64 (off + xs.length + len) = true)
    (hno' : inI64 (off + len) = true) :
    let start : Nat := if 0 ≤ off then min off.toNat xs.length else (xs.length + off).toNat
    ∃ ys, sliceFilter (.arr xs) [.sc (.int off), .sc (.int len)] = .ok (.arr ys) ∧
      ys = (xs.drop start).take len.toNat ∧
      ys.length = min len.toNat (xs.length - start) ∧
      ∀ k, k < ys.length → ys[k]? = xs[start + k]? := by
  intro start
  have hidx : ∀ (s l : Nat), ∀ k, k < ((xs.drop s).take l).length → ((xs.drop s).take l)[k]? = xs[s + k]? := by
    intro s l k hk
    rw [length_take] at hk
    rw [getElem?_take_of_lt (Nat.lt_min.mp hk).1, getElem?_drop]
  have key : sliceFilter (.arr xs) [.sc (.int off), .sc (.int len)] = .ok (.arr ((xs.drop start).take len.toNat)) := by
    obtain ⟨o, l, hc, rfl, hl⟩ := canonSlice_list xs off len hlen hoff
    simp only [sliceFilter, intArg, Sc.toInteger?, if_neg (show ¬ len < 1 by omega), hc, bind, Res.bind, pure, hl, start]
  refine ⟨_, key, rfl, by simp [length_take, length_drop], hidx start len.toNat⟩

/-- an offset further than the length before the start gives the empty array (the `usize` image of a
negative number skips everything) -/
theorem C14_slice_far_negative (xs : List V) (off len : Int) (hlen : 1 ≤ len)
    (hoff : off < -(xs.length : Int)) (hlo : i64Min ≤ off) (hhi : len ≤ i64Max) :
    sliceFilter (.arr xs) [.sc (.int off), .sc (.int len)] = .ok (.arr []) := by
  simp only [i64Min] at hlo
  have hl : ¬ len < 1 := by omega
  have h1 : off ≤ (xs.length : Int) := by omega
  have hneg : off < 0 := by omega
  -- the start is negative, so `as usize` it is `2^64 - |off + length|`, at least `2^63 + length` by `hlo`
  have hbig : xs.length ≤ toUsize (off + (xs.length : Int)) := by
    have hlt : off + (xs.length : Int) < 0 := by omega
    simp only [toUsize, hlt, if_true]
    omega
  simp only [sliceFilter, intArg, Sc.toInteger?, hl, if_false, canonSlice, h1, if_true, hneg,
    bind, Res.bind, pure]
  rw [drop_eq_nil_of_le hbig]; simp

/-- **join** is the renderings of the elements with the separator between them. -/
theorem C14_join (xs : List V) (sep : V) :
    joinFilter (.arr xs) [sep] = .ok (.sc (.str (List.intercalate sep.render (xs.map V.render)))) ∧
    joinFilter (.arr xs) [] = .ok (.sc (.str (List.intercalate [' '] (xs.map V.render)))) := by
  have h : ∀ (s : Str) (l : List Str), joinStr s l = List.intercalate s l := by
    intro s l
    induction l with
    | nil => rfl
    | cons a r ih =>
      cases r with
      | nil => exact intercalate_singleton.symm
      | cons b r' => rw [intercalate_cons_cons, ← ih]; rfl
  exact ⟨by simp [joinFilter, h], by simp [joinFilter, h]⟩

/-- none of the array filters has a panic outcome, whatever the input and the arguments.  `hn` leaves
the array `slice` out because `stdFilters` does, so that the capstone (Props/C02) never asks about it. -/
theorem C14_no_panic (lower : Str → Str) (name : Str) (f : V → List V → Res V)
    (hf : filters lower name = some f) (hn : name ≠ "slice".toList) (input : V) (args : List V) :
    (f input args).isPanic = false := by
  unfold filters at hf
  split at hf <;> simp at hf <;> subst hf
  · rcases C14_sort_filter_perm input args with h | ⟨_, h, _⟩ <;> simp [h, Res.isPanic]
  · rcases C14_sort_natural_filter_perm lower input args with h | ⟨_, h, _⟩ <;> simp [h, Res.isPanic]
  · unfold uniqFilter; split <;> rfl
  · unfold reverseFilter; split <;> rfl
  · unfold mapFilter; split <;> rfl
  · unfold compactFilter; split <;> (try split) <;> rfl
  · unfold concatFilter; split <;> rfl
  · unfold whereFilter; split <;> (try split) <;> (try split) <;> (try split) <;> rfl
  · unfold firstFilter; split <;> rfl
  · unfold lastFilter; split <;> rfl
  · unfold sizeFilter; split <;> (try split) <;> rfl
  · unfold joinFilter; split <;> (try split) <;> rfl
  next heq =>
    have h := congrArg String.toList heq
    exact absurd (by simpa using h) hn

/-! ### non-vacuity -/

example : TotalPreorderOn [V.sc (.int 2), .nil, V.sc (.str ['b']), V.sc (.int 1), V.sc (.bool true)]
    (fun a b => sortLe (id a) (id b)) :=
  C14_preorder_ints_strings_mixed id _ (by decide)
example : sortByKey id [V.sc (.int 2), .nil, V.sc (.str ['b']), V.sc (.int 1), V.sc (.bool true)]
    = [V.sc (.int 1), V.sc (.int 2), V.sc (.bool true), V.sc (.str ['b']), .nil] :=
  -- as for `C14_sort_repaired_witness`; the rearrangement moves positions 0, 1, 2 to the front in turn
  (C14_stable_unique _ [V.sc (.int 2), .nil, V.sc (.str ['b']), V.sc (.int 1), V.sc (.bool true)]
    (C14_preorder_ints_strings_mixed id _ (by decide))
    [(V.sc (.int 1), 3), (V.sc (.int 2), 0), (V.sc (.bool true), 4), (V.sc (.str ['b']), 2), (.nil, 1)]
    ((perm_middle (l₁ := [_])).trans (.cons _ ((perm_middle (l₁ := [_, _, _])).trans
      (.cons _ (perm_middle (l₁ := [_, _])))))) (by decide)).symm
example : uniq [V.sc (.int 1), V.sc (.int 2), V.sc (.int 1), .nil, .nil] = [V.sc (.int 1), V.sc (.int 2), .nil] := by
  -- `valueEq` is by well-founded recursion: its equations take each comparison to `valueEqFlat`,
  -- which evaluates
  simp only [uniq, uniqFrom, valueEq]
  rfl
example : sliceFilter (.arr [V.sc (.int 1), V.sc (.int 2), V.sc (.int 3)]) [.sc (.int (-2)), .sc (.int 5)]
    = .ok (.arr [V.sc (.int 2), V.sc (.int 3)]) := rfl

end Liquid.C14
