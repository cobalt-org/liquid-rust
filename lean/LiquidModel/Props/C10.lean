/-
  C10 — a failing output sink produces an error and a clean prefix, never a panic.
  Model: the render monad of `Model/Render.lean` (`W`, `W.write`, `M.emit`); the simulation lemma
  `renderT_sinkOk` (`Lemmas/Sink.lean`) is proved for every template by the interpreter induction.
-/
import LiquidModel.Lemmas.Sink
import LiquidModel.Generated.WriteSites
namespace Liquid.C10

/-- a sink that has accepted nothing yet and accepts `k` more writes / never fails -/
def sinkK (k : Nat) : W := { out := [], budget := some k }
def sinkInf : W := { out := [], budget := none }

/-- **Prefix theorem.** For every template, partial store, data (start runtime) and every `k`:
let `δ` be the fragments the fault-free run writes. If the sink fails at write `k + 1 ≤ |δ|`, the
streaming render returns the sink error, exactly the first `k` fragments were accepted, and
nothing is written afterwards (the sink is left exhausted with that prefix). If the sink would
only fail later than the render writes, outcome, final state and output are those of the
fault-free run. -/
theorem C10_prefix (env : Env) (fuel : Nat) (t : Tmpl) (rt : Rt) (k : Nat) :
    ∃ (r : Res Unit) (rt' : Rt) (δ : List Str),
      renderT fuel env t rt sinkInf = (r, rt', { out := δ, budget := none }) ∧
      (δ.length ≤ k → renderT fuel env t rt (sinkK k) = (r, rt', { out := δ, budget := some (k - δ.length) })) ∧
      (k < δ.length → ∃ rt'', renderT fuel env t rt (sinkK k) = (.io, rt'', { out := δ.take k, budget := some 0 })) := by
  obtain ⟨r, rt', δ, h1, h2, h3⟩ := renderT_sinkOk env fuel t rt
  refine ⟨r, rt', δ, ?_, ?_, ?_⟩
  · simpa [sinkInf] using h1 []
  · intro hk; simpa [sinkK] using h2 [] k hk
  · intro hk
    obtain ⟨rt'', h⟩ := h3 [] k hk
    exact ⟨rt'', by simpa [sinkK] using h⟩

/-- **What the sink accepted is always a prefix of the fault-free output** — as fragments and as
text — whatever `k`. -/
theorem C10_accepted_is_prefix (env : Env) (fuel : Nat) (t : Tmpl) (rt : Rt) (k : Nat) :
    (renderT fuel env t rt (sinkK k)).2.2.out <+: (renderT fuel env t rt sinkInf).2.2.out ∧
    (renderT fuel env t rt (sinkK k)).2.2.text <+: (renderT fuel env t rt sinkInf).2.2.text := by
  obtain ⟨r, rt', δ, h1, h2, h3⟩ := C10_prefix env fuel t rt k
  by_cases hk : δ.length ≤ k
  · rw [h1, h2 hk]; exact ⟨List.prefix_refl _, List.prefix_refl _⟩
  · obtain ⟨rt'', h⟩ := h3 (by omega)
    rw [h1, h]
    refine ⟨List.take_prefix _ _, ?_⟩
    simp only [W.text]
    obtain ⟨s, hs⟩ := List.take_prefix k δ
    exact ⟨s.flatten, by rw [← List.flatten_append, hs]⟩

/-- **A failing sink is an error, never success and never a panic**: when the sink gives up
before the render is done, the result is the sink's error. -/
theorem C10_failure_is_error (env : Env) (fuel : Nat) (t : Tmpl) (rt : Rt) (k : Nat)
    (hk : k < (renderT fuel env t rt sinkInf).2.2.out.length) :
    (renderT fuel env t rt (sinkK k)).1 = .io := by
  obtain ⟨r, rt', δ, h1, _, h3⟩ := C10_prefix env fuel t rt k
  rw [h1] at hk
  obtain ⟨rt'', h⟩ := h3 hk
  rw [h]

/-- **Streamed = buffered.** With a sink that never fails, the text streamed is exactly the string
the buffering `render` returns (so one succeeds exactly when the other does; that they fail with the
same outcome is not in the statement, it is read off `renderTop`). -/
theorem C10_stream_eq_buffer (env : Env) (fuel : Nat) (t : Tmpl) (globals : Obj) (s : Str) :
    renderTop fuel env t globals = .ok s ↔
      ((renderT fuel env t (Rt.build globals) sinkInf).1 = .ok () ∧
       (renderT fuel env t (Rt.build globals) sinkInf).2.2.text = s) := by
  unfold renderTop sinkInf
  rcases renderT fuel env t (Rt.build globals) {} with ⟨r, rt', w⟩
  cases r <;> simp

/-- **Short writes.** If the sink accepts only part `p` of the fragment at which it then fails, the
bytes it holds are still a prefix of the fault-free output.  The statement is about the list of
fragments `δ` alone (`C10_prefix` says that these are what a run writes); no render occurs in it. -/
theorem C10_short_write (δ : List Str) (k : Nat) (p frag : Str) (hk : δ[k]? = some frag) (hp : p <+: frag) :
    (δ.take k).flatten ++ p <+: δ.flatten := by
  obtain ⟨q, rfl⟩ := hp
  obtain ⟨hlt, hget⟩ := List.getElem?_eq_some_iff.mp hk
  refine ⟨q ++ (δ.drop (k + 1)).flatten, ?_⟩
  -- `δ` is its first `k` fragments, then `p ++ q`, then the rest
  conv => rhs; rw [← List.take_append_drop k δ, List.drop_eq_getElem_cons hlt, hget]
  simp only [List.flatten_append, List.flatten_cons, List.append_assoc]

/-- Writes that carry no bytes (empty fragments) make no `write` call: they neither fail nor count. -/
theorem C10_empty_write_is_free (w : W) : w.write [] = some w := rfl

/-- **Every write site propagates the sink's error.** The table is regenerated from /repo's sources
on every run (tools/extract.py): each `write!(writer, …)` in a stdlib/core `render_to` is followed
by `.replace("Failed to render")?` — the syntactic fact the model's `M.emit` relies on.  The bound
keeps the first conjunct from holding of a table that has lost its sites: the sources have more
than ten, so fewer means that the extractor's pattern no longer recognises the code. -/
theorem C10_write_sites_propagate :
    Generated.writeSites.all (·.propagated) = true ∧ 10 ≤ Generated.writeSites.length := by
  decide

/-! ### non-vacuity: a concrete template whose sink fails in the middle -/
example :
    (renderT 4 {} [.text "ab".toList, .text "cd".toList, .text "ef".toList] (Rt.build []) (sinkK 1)).1 = .io ∧
    (renderT 4 {} [.text "ab".toList, .text "cd".toList, .text "ef".toList] (Rt.build []) (sinkK 1)).2.2.out
      = ["ab".toList] := by
  constructor <;> rfl

end Liquid.C10
