/-
  C12 — all views and conversions of a datum agree (owned, borrowed, serde, derive).

  Model: `Model/Serde.lean` (+ the single definitions of the observations in `Model/Value.lean`);
  hypotheses are the executable predicates of `Spec/C12.lean`, which the driver also evaluates on
  the implementation's observations.

  What is *not* a theorem: that the many Rust impls of `ValueView` (`Value`, `ValueCow`, `&T`,
  `Option<T>`, `Vec<T>`, maps, derived structs …) agree with the single Lean definition of each
  observation.  The model has one definition; the agreement of the Rust impls with it is
  established by the differential harness (`harness/src/c12.rs`), on every run.
-/
import LiquidModel.Spec.C12
import LiquidModel.Model.Render
import LiquidModel.Lemmas.Obj
import LiquidModel.Lemmas.Digits
namespace Liquid.C12

@[simp] theorem Res.bind_ok {α β} (a : α) (f : α → Res β) : (Res.ok a).bind f = f a := rfl
@[simp] theorem Res.bind_err {α β} (f : α → Res β) : (Res.err : Res α).bind f = .err := rfl

theorem keysDistinct_iff_nodup {α : Type} (es : List (Str × α)) :
    keysDistinct es = true ↔ (es.map (·.1)).Nodup := by
  induction es with
  | nil => simp [keysDistinct]
  | cons e r ih => simp [keysDistinct, ih, -Prod.forall, -Prod.exists]

theorem foldl_insert_nodup : ∀ (es acc : Obj), ((acc ++ es).map (·.1)).Nodup →
    es.foldl (fun o e => objInsert o e.1 e.2) acc = acc ++ es
  | [], acc, _ => (List.append_nil acc).symm
  | (k, v) :: r, acc, h => by
    have hk : objContains acc k = false := by
      refine Bool.eq_false_iff.mpr fun hc => ?_
      rw [C18.objContains_iff_mem] at hc
      rw [List.map_append, List.nodup_append] at h
      exact h.2.2 k hc k List.mem_cons_self rfl
    rw [List.append_cons] at h ⊢
    rw [List.foldl_cons, C18.objInsert_fresh acc k v hk]
    exact foldl_insert_nodup r _ h

/-- `HashMap::insert` of entries with pairwise distinct keys keeps every entry.  The keys may be
read off another list: a conversion of the entries that leaves the keys alone. -/
theorem objOfEntries_of_keys {α : Type} {es : Obj} {fs : List (Str × α)}
    (h : es.map (·.1) = fs.map (·.1)) (hd : keysDistinct fs = true) : objOfEntries es = es := by
  rw [keysDistinct_iff_nodup, ← h] at hd
  exact foldl_insert_nodup es [] hd

theorem objOfEntries_distinct (es : Obj) (h : keysDistinct es = true) : objOfEntries es = es :=
  objOfEntries_of_keys rfl h

private theorem keys_imageO (kvs : List (Str × V)) : (imageO kvs).map (·.1) = kvs.map (·.1) := by
  induction kvs with
  | nil => rfl
  | cons e r ih => obtain ⟨k, v⟩ := e; simp [imageO, ih]

private theorem keys_tdViewF (fs : List (Str × TD)) : (tdViewF fs).map (·.1) = fs.map (·.1) := by
  induction fs with
  | nil => rfl
  | cons e r ih => obtain ⟨k, v⟩ := e; simp [tdViewF, ih]

/-! ## 1. `to_value(&v)`: exact characterisation, and what round-trips -/

mutual
private theorem ser_image : (v : V) → invV v = true → serialize v.toSD = .ok (serdeImage v)
  | .nil, _ => rfl
  | .st _, _ => rfl
  | .sc s, h => by
    cases s
    case int i =>
      have hi : inI64 i = true := h
      simp only [V.toSD, Sc.toSD, serialize, serInt, IntTag.is128, hi, serdeImage, Res.bind_ok,
        if_true, Bool.false_eq_true, if_false]
    all_goals rfl
  | .arr xs, h => by
    simp only [V.toSD, serialize, serdeImage, serL_image xs h, Res.bind_ok]
  | .obj kvs, h => by
    simp only [invV, Bool.and_eq_true] at h
    simp only [V.toSD, serialize, serdeImage, serO_image kvs h.2, Res.bind_ok,
      objOfEntries_of_keys (keys_imageO kvs) h.1]
private theorem serL_image : (xs : List V) → invL xs = true → serList (toSDL xs) = .ok (imageL xs)
  | [], _ => rfl
  | x :: xs, h => by
    simp only [invL, Bool.and_eq_true] at h
    simp only [toSDL, serList, imageL, ser_image x h.1, serL_image xs h.2, Res.bind_ok]
private theorem serO_image : (kvs : List (Str × V)) → invO kvs = true →
    serEntries (toSDO kvs) = .ok (imageO kvs)
  | [], _ => rfl
  | (k, v) :: r, h => by
    simp only [invO, Bool.and_eq_true] at h
    simp only [toSDO, serEntries, imageO, mapKey, ser_image v h.1, serO_image r h.2, Res.bind_ok]
end

/-- **`to_value(&v)` for every value** (only the model's own invariants assumed: distinct keys,
integers within `i64`): the result is `v` with every date / date-time replaced by its text and
every `State` marker replaced by the name of its enum variant — nothing else changes, and the
conversion never fails. -/
theorem C12_to_value_image (v : V) (h : invV v = true) : toValueV v = .ok (serdeImage v) :=
  ser_image v h

mutual
private theorem image_id : (v : V) → wfWith scSer v = true → serdeImage v = v
  | .nil, _ => rfl
  | .st _, h => by cases h
  | .sc s, h => by
    cases s
    case dt | date => cases h
    all_goals rfl
  | .arr xs, h => congrArg V.arr (imageL_id xs h)
  | .obj kvs, h => by
    simp only [wfWith, Bool.and_eq_true] at h
    exact congrArg V.obj (imageO_id kvs h.2)
private theorem imageL_id : (xs : List V) → wfL scSer xs = true → imageL xs = xs
  | [], _ => rfl
  | x :: xs, h => by
    simp only [wfL, Bool.and_eq_true] at h
    simp only [imageL, image_id x h.1, imageL_id xs h.2]
private theorem imageO_id : (kvs : List (Str × V)) → wfO scSer kvs = true → imageO kvs = kvs
  | [], _ => rfl
  | (k, v) :: r, h => by
    simp only [wfO, Bool.and_eq_true] at h
    simp only [imageO, image_id v h.1, imageO_id r h.2]
end

mutual
private theorem wf_inv : (v : V) → wfWith scSer v = true → invV v = true
  | .nil, _ => rfl
  | .st _, _ => rfl
  | .sc s, h => by
    cases s
    case int => exact h
    all_goals rfl
  | .arr xs, h => wfL_inv xs h
  | .obj kvs, h => by
    simp only [wfWith, Bool.and_eq_true] at h
    simp only [invV, h.1, wfO_inv kvs h.2, Bool.and_self]
private theorem wfL_inv : (xs : List V) → wfL scSer xs = true → invL xs = true
  | [], _ => rfl
  | x :: xs, h => by
    simp only [wfL, Bool.and_eq_true] at h
    simp only [invL, wf_inv x h.1, wfL_inv xs h.2, Bool.and_self]
private theorem wfO_inv : (kvs : List (Str × V)) → wfO scSer kvs = true → invO kvs = true
  | [], _ => rfl
  | (k, v) :: r, h => by
    simp only [wfO, Bool.and_eq_true] at h
    simp only [invO, wf_inv v h.1, wfO_inv r h.2, Bool.and_self]
end

/-- **Round trip 1** — `to_value(&v) = Ok(v)` for every value without dates, date-times and
`State` markers (any nesting, any strings — also strings that look like numbers or dates:
`ValueSerializer` never inspects text). -/
theorem C12_roundtrip_to_value (v : V) (h : wfWith scSer v = true) : toValueV v = .ok v := by
  rw [C12_to_value_image v (wf_inv v h), image_id v h]

example : wfWith scSer
    (.obj [("a".toList, .arr [.sc (.int 1), .sc (.str "2022-03-02".toList), .nil, .sc (.flt { bits := 0x7FF8000000000000 })]),
           ("b".toList, .obj [("c".toList, .sc (.bool true))])]) = true := by decide

/-- `C12_roundtrip_to_value` spelt out in the observations the property names (kind, printed forms,
the four truthiness answers, equality).  The result *is* `v`, so every conjunct after the first
holds by `rfl` (the last one reads `V.same v v = V.same v v`) and adds nothing to that theorem. -/
theorem C12_roundtrip_to_value_observations (v : V) (h : wfWith scSer v = true) :
    ∃ w, toValueV v = .ok w ∧ w.typeName = v.typeName ∧ w.render = v.render ∧
      w.source = v.source ∧ w.toKStr = v.toKStr ∧ (∀ q, w.queryState q = v.queryState q) ∧
      (∀ u, valueEq w u = valueEq v u) ∧ V.same w v = V.same v v :=
  ⟨v, C12_roundtrip_to_value v h, rfl, rfl, rfl, rfl, fun _ => rfl, fun _ => rfl, rfl⟩

mutual
private theorem image_render : (v : V) → wfWith (fun _ => true) v = true →
    (serdeImage v).render = v.render
  | .nil, _ => rfl
  | .st _, h => by cases h
  | .sc s, _ => by cases s <;> rfl
  | .arr xs, h => imageL_render xs h
  | .obj kvs, h => by
    simp only [wfWith, Bool.and_eq_true] at h
    exact imageO_render kvs h.2
private theorem imageL_render : (xs : List V) → wfL (fun _ => true) xs = true →
    renderL (imageL xs) = renderL xs
  | [], _ => rfl
  | x :: xs, h => by
    simp only [wfL, Bool.and_eq_true] at h
    simp only [imageL, renderL, image_render x h.1, imageL_render xs h.2]
private theorem imageO_render : (kvs : List (Str × V)) → wfO (fun _ => true) kvs = true →
    renderO (imageO kvs) = renderO kvs
  | [], _ => rfl
  | (k, v) :: r, h => by
    simp only [wfO, Bool.and_eq_true] at h
    simp only [imageO, renderO, image_render v h.1, imageO_render r h.2]
end

/-- **Printed form survives `to_value` even where the kind does not**: for every value without
`State` markers — dates and date-times included — the converted value renders the same text. -/
theorem C12_to_value_render (v : V) (hinv : invV v = true) (h : wfWith (fun _ => true) v = true) :
    ∃ w, toValueV v = .ok w ∧ w.render = v.render :=
  ⟨serdeImage v, C12_to_value_image v hinv, image_render v h⟩

/-- What does *not* round-trip through `to_value` (replayed on the implementation by the
harness kinds `witness-date`, `witness-state`): a date comes back as a string — same text,
different kind, and no longer equal to the original … -/
theorem C12_to_value_date_counterexample :
    let d : Dt := { days := 19053, disp := "2022-03-02".toList }
    toValueV (.sc (.date d)) = .ok (.sc (.str "2022-03-02".toList)) ∧
    valueEq (.sc (.str "2022-03-02".toList)) (.sc (.date d)) = false ∧
    (V.sc (.str "2022-03-02".toList)).render = (V.sc (.date d)).render := by
  refine ⟨rfl, ?_, rfl⟩
  unfold valueEq
  rfl

/-- … and a `State` marker (which no template can produce) comes back as a non-empty string. -/
theorem C12_to_value_state_counterexample :
    toValueV (.st .blank) = .ok (.sc (.str "Blank".toList)) := rfl

/-! ## 2. `from_value::<Value>(&v)` -/

private theorem dtSame_eq {a b : DT} (h : dtSame a b = true) : a = b := by
  cases a; cases b; simp_all [dtSame]

private theorem dateSame_eq {a b : Dt} (h : dateSame a b = true) : a = b := by
  cases a; cases b; simp_all [dateSame]

private theorem desStr_plain (orc : TextOracle) (s : Str) (h : plainStr orc s = true) :
    desStr orc s = .str s := by
  simp only [plainStr, Bool.and_eq_true, Option.isNone_iff_eq_none] at h
  simp only [desStr, h.1, h.2]

private theorem desStr_dt (orc : TextOracle) (d : DT) (h : dtReparses orc d = true) :
    desStr orc d.disp = .dt d := by
  unfold dtReparses at h
  split at h
  next d' hd => simp only [desStr, hd, dtSame_eq h]
  · cases h

private theorem desStr_date (orc : TextOracle) (d : Dt) (h : dateReparses orc d = true) :
    desStr orc d.disp = .date d := by
  unfold dateReparses at h
  simp only [Bool.and_eq_true, Option.isNone_iff_eq_none] at h
  obtain ⟨h1, h2⟩ := h
  split at h2
  next d' hd => simp only [desStr, h1, hd, dateSame_eq h2]
  · cases h2

private theorem keys_desO_toContO (orc : TextOracle) (kvs : List (Str × V)) :
    (desO orc (toContO kvs)).map (·.1) = kvs.map (·.1) := by
  induction kvs with
  | nil => rfl
  | cons e r ih => obtain ⟨k, v⟩ := e; simp [toContO, desO, ih]

/-- Scalars: numbers and booleans are visited as themselves, everything else as its text, which
`desStr` takes back (`scJson` asks the same of these three). -/
private theorem fromSc_id (orc : TextOracle) : (s : Sc) → scFrom orc s = true →
    deserializeValue orc s.toCont = .sc s
  | .int _, _ => rfl
  | .flt _, _ => rfl
  | .bool _, _ => rfl
  | .dt d, h => congrArg V.sc (desStr_dt orc d h)
  | .date d, h => congrArg V.sc (desStr_date orc d h)
  | .str s, h => congrArg V.sc (desStr_plain orc s h)

mutual
private theorem from_id (orc : TextOracle) : (v : V) → wfWith (scFrom orc) v = true →
    deserializeValue orc v.toCont = v
  | .nil, _ => rfl
  | .st _, h => by cases h
  | .sc s, h => fromSc_id orc s h
  | .arr xs, h => by
    simp only [V.toCont, deserializeValue, fromL_id orc xs h]
  | .obj kvs, h => by
    simp only [wfWith, Bool.and_eq_true] at h
    simp only [V.toCont, deserializeValue, fromO_id orc kvs h.2, objOfEntries_distinct _ h.1]
private theorem fromL_id (orc : TextOracle) : (xs : List V) → wfL (scFrom orc) xs = true →
    desL orc (toContL xs) = xs
  | [], _ => rfl
  | x :: xs, h => by
    simp only [wfL, Bool.and_eq_true] at h
    simp only [toContL, desL, from_id orc x h.1, fromL_id orc xs h.2]
private theorem fromO_id (orc : TextOracle) : (kvs : List (Str × V)) → wfO (scFrom orc) kvs = true →
    desO orc (toContO kvs) = kvs
  | [], _ => rfl
  | (k, v) :: r, h => by
    simp only [wfO, Bool.and_eq_true] at h
    simp only [toContO, desO, from_id orc v h.1, fromO_id orc r h.2]
end

/-- **Round trip 2** — `from_value::<Value>(&v) = v` (for the repaired `deserialize_any`) for
every value without `State` markers whose strings are not in the date / date-time text format
and whose dates / date-times parse back from their own Display text (for *whatever* the `time`
crate's parsers do: `orc` is universally quantified).  In particular integers stay the same
integers, floats keep their bits (NaN included), and strings that look like numbers stay strings. -/
theorem C12_roundtrip_from_value (orc : TextOracle) (v : V) (h : wfWith (scFrom orc) v = true) :
    fromValueV orc v = v := from_id orc v h

/-- an oracle that recognises nothing (e.g. on data without date-like text) -/
def noDates : TextOracle := { dt := fun _ => none, date := fun _ => none }

example : wfWith (scFrom noDates)
    (.obj [("a".toList, .arr [.sc (.int 1), .sc (.str "123".toList), .nil]), ("b".toList, .sc (.bool true))]) = true := by
  decide

/-- The code at the pinned commit violates round trip 2 on numeric-looking strings:
`from_value::<Value>(&Value::scalar("123"))` is the *integer* 123 — another kind, and not equal
to the original (harness kind `witness-numstr`; repaired by patches/C12-deserialize-any.diff). -/
theorem C12_from_value_numeric_string_old_counterexample (fp : Str → Option Fl) :
    fromValueScOld noDates fp (.str "123".toList) = .sc (.int 123) ∧
    valueEq (.sc (.int 123)) (.sc (.str "123".toList)) = false ∧
    fromValueV noDates (.sc (.str "123".toList)) = .sc (.str "123".toList) := by
  have hp : parseI64 "123".toList = some 123 := by decide
  refine ⟨?_, ?_, rfl⟩
  · simp only [fromValueScOld, Sc.toContOld, hp, deserializeValue]
  · unfold valueEq
    rfl

/-- … and the printed form changes too as soon as the text is not the canonical one:
`"1e3"` comes back as the float 1000 (whatever `str::parse::<f64>` returns is kept as a float). -/
theorem C12_from_value_float_string_old_counterexample (fp : Str → Option Fl) (f : Fl)
    (h : fp "1e3".toList = some f) :
    fromValueScOld noDates fp (.str "1e3".toList) = .sc (.flt f) := by
  have : parseI64 "1e3".toList = none := by decide
  simp only [fromValueScOld, Sc.toContOld, this, h, deserializeValue]

/-- By design of the untagged `Scalar` (not repaired): a *string* in the date format comes back
as a date (harness kind `witness-datestr`). -/
theorem C12_from_value_date_string_counterexample (orc : TextOracle) (d : Dt)
    (h1 : orc.dt "2022-03-02".toList = none) (h2 : orc.date "2022-03-02".toList = some d) :
    fromValueV orc (.sc (.str "2022-03-02".toList)) = .sc (.date d) := by
  simp only [fromValueV, V.toCont, Sc.toCont, deserializeValue, desStr, h1, h2]

/-- `State` markers come back as nil. -/
theorem C12_from_value_state_counterexample (orc : TextOracle) (s : St) :
    fromValueV orc (.st s) = .nil := rfl

/-! ## 3. through JSON text -/

private theorem keys_desO (orc : TextOracle) (es : List (Str × Cont)) :
    (desO orc es).map (·.1) = es.map (·.1) := by
  induction es with
  | nil => rfl
  | cons e r ih => obtain ⟨k, v⟩ := e; simp [desO, ih]

mutual
private theorem json_id (orc : TextOracle) : (v : V) → wfWith (scJson orc) v = true →
    (jsonOfSD v.toSD).map (deserializeValue orc) = some v
  | .nil, _ => rfl
  | .st _, h => by cases h
  | .sc s, h => by
    cases s with
    | int i =>
      have hi : i ≤ i64Max := ((inI64_iff i).mp h).2
      show some (deserializeValue orc (if i < 0 then .i64 i else .u64 i)) = _
      split
      · rfl
      · simp only [deserializeValue, hi, if_true]
    | flt f =>
      have hf : f.isFinite = true := h
      show some (deserializeValue orc (if f.isFinite then .f64 f else .unit)) = _
      rw [hf]
      rfl
    | bool b => rfl
    | dt d => exact congrArg some (fromSc_id orc (.dt d) h)
    | date d => exact congrArg some (fromSc_id orc (.date d) h)
    | str s => exact congrArg some (fromSc_id orc (.str s) h)
  | .arr xs, h => by
    obtain ⟨ys, hj, hys⟩ := Option.map_eq_some_iff.mp (jsonL_id orc xs h)
    simp only [V.toSD, jsonOfSD, hj, Option.bind_some, Option.map_some, deserializeValue, hys]
  | .obj kvs, h => by
    simp only [wfWith, Bool.and_eq_true] at h
    obtain ⟨es, hj, hes⟩ := Option.map_eq_some_iff.mp (jsonO_id orc kvs h.2)
    simp only [V.toSD, jsonOfSD, hj, Option.bind_some, Option.map_some, deserializeValue, hes,
      objOfEntries_distinct _ h.1]
private theorem jsonL_id (orc : TextOracle) : (xs : List V) → wfL (scJson orc) xs = true →
    (jsonL (toSDL xs)).map (desL orc) = some xs
  | [], _ => rfl
  | x :: xs, h => by
    simp only [wfL, Bool.and_eq_true] at h
    obtain ⟨y, hx, hy⟩ := Option.map_eq_some_iff.mp (json_id orc x h.1)
    obtain ⟨ys, hxs, hys⟩ := Option.map_eq_some_iff.mp (jsonL_id orc xs h.2)
    simp only [toSDL, jsonL, hx, hxs, Option.bind_some, Option.map_some, desL, hy, hys]
private theorem jsonO_id (orc : TextOracle) : (kvs : List (Str × V)) → wfO (scJson orc) kvs = true →
    (jsonE (toSDO kvs)).map (desO orc) = some kvs
  | [], _ => rfl
  | (k, v) :: r, h => by
    simp only [wfO, Bool.and_eq_true] at h
    obtain ⟨y, hx, hy⟩ := Option.map_eq_some_iff.mp (json_id orc v h.1)
    obtain ⟨es, hxs, hes⟩ := Option.map_eq_some_iff.mp (jsonO_id orc r h.2)
    simp only [toSDO, jsonE, jsonKey, hx, hxs, Option.bind_some, Option.map_some, desO, hy, hes]
end

/-- **Round trip 3** — `serde_json::from_str::<Value>(&serde_json::to_string(&v)?) = v` for every
value without `State` markers, with finite floats, strings outside the date formats, and dates
that parse back from their text (the decimal text of floats is external: assumption in
`jsonOfSD`). -/
theorem C12_roundtrip_json (orc : TextOracle) (v : V) (h : wfWith (scJson orc) v = true) :
    viaJson orc v.toSD = some v := json_id orc v h

example : wfWith (scJson noDates)
    (.obj [("a".toList, .arr [.sc (.int (-5)), .sc (.int 9223372036854775807), .sc (.str "123".toList), .nil,
           .sc (.flt { bits := 0x3FF8000000000000 })])]) = true := by decide

/-- JSON has no NaN / infinities: they come back as nil (harness kind `witness-nan`). -/
theorem C12_json_nan_counterexample (orc : TextOracle) :
    viaJson orc (V.sc (.flt { bits := 0x7FF8000000000000 })).toSD = some .nil := rfl

/-! ## 4. integers are never turned into different integers -/

/-- the result of narrowing is an integer scalar or an error — nothing else -/
theorem C12_narrow_kind (t : IntTag) (n : Int) :
    serInt t n = .ok (.int n) ∨ serInt t n = .err := by
  unfold serInt; split
  · exact .inr rfl
  · split
    · exact .inl rfl
    · exact .inr rfl

/-- `serialize_u64` (and every `serialize_{i,u}N`): the stored integer *is* the given one. -/
theorem C12_narrow (t : IntTag) (n k : Int) (h : serInt t n = .ok (.int k)) : k = n := by
  rcases C12_narrow_kind t n with h' | h' <;> rw [h'] at h
  · injection h with h; injection h with h; exact h.symm
  · cases h

theorem C12_narrow_u64 (n k : Int) (h : serializeU64 n = .ok (.int k)) : k = n :=
  C12_narrow .u64 n k h

/-- an integer above `i64::MAX` (or below `i64::MIN`) is rejected -/
theorem C12_narrow_big (t : IntTag) (n : Int) (h : n > i64Max ∨ n < i64Min) : serInt t n = .err := by
  unfold serInt; split
  · rfl
  · simp [(inI64_false_iff n).mpr h.symm]

theorem C12_narrow_u64_big (n : Int) (h : n > i64Max) : serializeU64 n = .err :=
  C12_narrow_big .u64 n (.inl h)

example : serializeU64 9223372036854775807 = .ok (.int 9223372036854775807) := by rfl
example : serializeU64 9223372036854775808 = .err := by rfl

/-- through the whole `ValueSerializer`: an integer of any width becomes that very integer or an error -/
theorem C12_narrow_value (t : IntTag) (n : Int) (v : V) (h : serialize (.int t n) = .ok v) :
    v = .sc (.int n) := by
  rcases C12_narrow_kind t n with h' | h' <;> simp [serialize, h'] at h
  exact h.symm

/-- From JSON (and any self-describing format): an unsigned integer event is kept exactly when it
fits, and otherwise carried as a *float* — never as another integer. -/
theorem C12_narrow_json (orc : TextOracle) (n : Int) :
    (n ≤ i64Max ∧ deserializeValue orc (.u64 n) = .sc (.int n)) ∨
    (n > i64Max ∧ deserializeValue orc (.u64 n) = .sc (.flt (intToF64 n))) := by
  by_cases h : n ≤ i64Max
  · exact .inl ⟨h, by simp [deserializeValue, h]⟩
  · exact .inr ⟨by omega, by simp [deserializeValue, h]⟩

/-- `u64::MAX` arrives as the double 2⁶⁴ (bit pattern `0x43F0000000000000`). -/
theorem C12_narrow_json_u64_max (orc : TextOracle) :
    ∃ f, deserializeValue orc (.u64 18446744073709551615) = .sc (.flt f) ∧
      f.bits = 0x43F0000000000000 := by
  refine ⟨intToF64 18446744073709551615, ?_, by decide +kernel⟩
  have : ¬ ((18446744073709551615 : Int) ≤ i64Max) := by decide
  simp only [deserializeValue, this, if_false]

/-- Typed direction (`from_value::<u8>` … `::<u64>`): the result is the value's own integer and
lies in the target type's range; anything else is an error. -/
theorem C12_narrow_typed (t : IntTag) (v : V) (k : Int) (h : desInt t v = .ok k) :
    t.inRange k = true ∧ ∃ s, v = .sc s ∧ s.toInteger? = some k := by
  unfold desInt at h
  split at h
  next s =>
    split at h
    next n hn =>
      split at h
      next hr =>
        injection h with h
        subst h
        exact ⟨hr, s, rfl, hn⟩
      · cases h
    · cases h
  · cases h

/-- `from_value::<Value>` of an integer or float *scalar* is that scalar, bit pattern included: both
by definition of `deserializeValue`.  For numbers inside arrays and objects see
`C12_roundtrip_from_value`. -/
theorem C12_narrow_from_value (orc : TextOracle) (i : Int) (f : Fl) :
    fromValueV orc (.sc (.int i)) = .sc (.int i) ∧ fromValueV orc (.sc (.flt f)) = .sc (.flt f) := ⟨rfl, rfl⟩

example : desInt .u8 (.sc (.int 300)) = .err := by rfl
example : desInt .u8 (.sc (.int 255)) = .ok 255 := by rfl

/-! ## 5. derived view = serde conversion -/

mutual
/-- **Derived view = serde conversion.**  For every datum of the derive family whose fields are
booleans, integers, floats, strings, `Value`s, options, vectors, string-keyed maps and nested
derived structs (no `Date`/`DateTime` field), the value shown by the `ValueView`/`ObjectView`
impls — forwarding impls and `derive(ObjectView, ValueView)` — *is* `to_value(&x)`. -/
theorem C12_derive_eq_serde (x : TD) (h : tdWf x = true) : serialize x.toSD = .ok x.view :=
  match x, h with
  | .bool _, _ => rfl
  | .int t n, h => by
    simp only [tdWf, Bool.and_eq_true, Bool.not_eq_true'] at h
    simp only [TD.toSD, serialize, serInt, h.1, h.2, TD.view, Res.bind_ok, Bool.false_eq_true, if_false,
      if_true]
  | .f32 _, _ => rfl
  | .f64 _, _ => rfl
  | .str _, _ => rfl
  | .dt _, h => by cases h
  | .date _, h => by cases h
  | .val v, h => C12_roundtrip_to_value v h
  | .none, _ => rfl
  | .some x, h => C12_derive_eq_serde x h
  | .vec xs, h => by
    simp only [TD.toSD, TD.view, serialize, tdL_ser xs h, Res.bind_ok]
  | .map kvs, h => by
    simp only [tdWf, Bool.and_eq_true] at h
    simp only [TD.toSD, TD.view, serialize, tdM_ser kvs h.2, Res.bind_ok,
      objOfEntries_of_keys (keys_tdViewF kvs) h.1]
  | .struct fs, h => by
    simp only [tdWf, Bool.and_eq_true] at h
    simp only [TD.toSD, TD.view, serialize, tdF_ser fs h.2, Res.bind_ok,
      objOfEntries_of_keys (keys_tdViewF fs) h.1]
private theorem tdL_ser : (xs : List TD) → tdWfL xs = true → serList (tdSDL xs) = .ok (tdViewL xs)
  | [], _ => rfl
  | x :: xs, h => by
    simp only [tdWfL, Bool.and_eq_true] at h
    simp only [tdSDL, serList, tdViewL, C12_derive_eq_serde x h.1, tdL_ser xs h.2, Res.bind_ok]
private theorem tdM_ser : (kvs : List (Str × TD)) → tdWfF kvs = true →
    serEntries (tdSDM kvs) = .ok (tdViewF kvs)
  | [], _ => rfl
  | (k, x) :: r, h => by
    simp only [tdWfF, Bool.and_eq_true] at h
    simp only [tdSDM, serEntries, mapKey, tdViewF, C12_derive_eq_serde x h.1, tdM_ser r h.2, Res.bind_ok]
private theorem tdF_ser : (fs : List (Str × TD)) → tdWfF fs = true →
    serFields (tdSDF fs) = .ok (tdViewF fs)
  | [], _ => rfl
  | (k, x) :: r, h => by
    simp only [tdWfF, Bool.and_eq_true] at h
    simp only [tdSDF, serFields, tdViewF, C12_derive_eq_serde x h.1, tdF_ser r h.2, Res.bind_ok]
end

/-- the same for `to_object(&x)` of a struct -/
theorem C12_derive_eq_to_object (fs : List (Str × TD)) (h : tdWf (.struct fs) = true) :
    serializeObject (TD.struct fs).toSD = .ok (tdViewF fs) := by
  simp only [tdWf, Bool.and_eq_true] at h
  simp only [TD.toSD, serializeObject, tdF_ser fs h.2, Res.bind_ok,
    objOfEntries_of_keys (keys_tdViewF fs) h.1]

/-- In the words of the property: the object `to_object(&x)` returns may stand for the derived view
as a template's globals.  Nothing about rendering is used: `o = tdViewF fs` by
`C12_derive_eq_to_object`, the rest is congruence. -/
theorem C12_derive_template_eq (fuel : Nat) (env : Env) (t : Tmpl) (fs : List (Str × TD))
    (h : tdWf (.struct fs) = true) (o : Obj) (ho : serializeObject (TD.struct fs).toSD = .ok o) :
    renderTop fuel env t o = renderTop fuel env t (tdViewF fs) := by
  rw [C12_derive_eq_to_object fs h] at ho
  injection ho with ho
  rw [ho]

example : tdWf (.struct [("a".toList, .int .i32 5), ("b".toList, .some (.vec [.str "x".toList, .str "2022-03-02".toList])),
    ("c".toList, .map [("k".toList, .f64 { bits := 0 })]), ("d".toList, .val (.arr [.nil]))]) = true := by decide

/-- Where derive and serde part: a `Date` field is a date through the derived view and a string
through serde (harness kind `witness-tddate`). -/
theorem C12_derive_date_field_counterexample :
    let d : Dt := { days := 19053, disp := "2022-03-02".toList }
    let x : TD := .struct [("day".toList, .date d)]
    serialize x.toSD = .ok (.obj [("day".toList, .sc (.str "2022-03-02".toList))]) ∧
    x.view = .obj [("day".toList, .sc (.date d))] := ⟨rfl, rfl⟩

/-- `derive(ObjectView)` at the pinned commit names the field `r#type` by the raw token text,
serde_derive by the identifier (`type`): the two views of the same struct disagree on the key
(harness kind `witness-rawident`; repaired by patches/C12-derive-raw-ident.diff). -/
theorem C12_derive_raw_ident_old_counterexample :
    deriveKeyOld true "type".toList = "r#type".toList ∧ deriveKeyOld true "type".toList ≠ "type".toList := by
  decide

/-- **A map key stays the key it was.** The text under which an integer key of a Rust map appears in
the object is the decimal text of that very integer, for every integer of every width up to 64 bits
(a `u64` above `i64::MAX` included: it is not squeezed through a narrower type first); different
integers give different keys, and string keys are kept as they are. -/
theorem C12_map_key_exact (t : IntTag) (n m : Int) (ht : t.is128 = false) :
    mapKey (.int t n) = .ok (intRepr n) ∧
    (mapKey (.int t n) = mapKey (.int t m) → n = m) ∧
    (∀ s : Str, mapKey (.str s) = .ok s) := by
  refine ⟨by simp [mapKey, ht], ?_, fun s => rfl⟩
  intro h
  have : intRepr n = intRepr m := by simpa [mapKey, ht] using h
  exact intRepr_injective n m this

end Liquid.C12
