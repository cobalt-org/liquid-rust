/-
  C20 — parsers and templates can be shared across threads without changing results.
  Model: `Model/Partials.lean` (`Sys`, `stepThread`: threads doing `get`s on one lazy store under
  its mutex).  Everything else a render touches is private to the call (`C09_fresh_runtime`).
  Not modelled (stated in the evidence): real preemption points, memory ordering, `Send`/`Sync`.
-/
import LiquidModel.Props.C19
namespace Liquid.C20

/-- the lock is held exactly by the thread that is in its critical section -/
def LockInv (s : Sys) : Prop :=
  (∀ (i : Nat) (t : TState), s.threads[i]? = some t → (t.phase = Phase.holding ↔ s.lock = some i)) ∧
  (∀ (i : Nat) (t : TState), s.threads[i]? = some t → t.phase = Phase.holding → t.todo ≠ []) ∧
  (∀ j, s.lock = some j → ∃ t, s.threads[j]? = some t)

/-- the cache is sound, and every result recorded so far is `compiled` of some name (which name was
asked is not recorded) -/
def Sound (src : PSrc) (c : Compile) (s : Sys) : Prop :=
  C19.Inv src c s.cache ∧
  ∀ (i : Nat) (t : TState), s.threads[i]? = some t → ∀ x ∈ t.results, ∃ n, x = compiled src c n

theorem stepThread_acquire (src : PSrc) (c : Compile) {s : Sys} {i : Nat} {t : TState} {n : Str} {r : List Str}
    (ht : s.threads[i]? = some t) (hp : t.phase = .idle) (htd : t.todo = n :: r) (hlk : s.lock = none) :
    stepThread src c s i =
      some { s with lock := some i, threads := s.threads.set i { t with phase := .holding } } := by
  simp only [stepThread, ht, hp, htd, hlk, Option.isNone_none, if_true]

theorem stepThread_release (src : PSrc) (c : Compile) {s : Sys} {i : Nat} {t : TState} {n : Str} {r : List Str}
    (ht : s.threads[i]? = some t) (hp : t.phase = .holding) (htd : t.todo = n :: r) (hlk : s.lock = some i) :
    stepThread src c s i =
      some { lock := none, cache := (lazyGet src c s.cache n).2,
             threads := s.threads.set i
               { todo := r, phase := .idle, results := t.results ++ [(lazyGet src c s.cache n).1] } } := by
  simp only [stepThread, ht, hp, htd, hlk, beq_self_eq_true, if_true]

/-- a thread has no other move -/
theorem stepThread_some {src : PSrc} {c : Compile} {s s' : Sys} {i : Nat} (h : stepThread src c s i = some s') :
    ∃ t n r, s.threads[i]? = some t ∧ t.todo = n :: r ∧
      ((t.phase = .idle ∧ s.lock = none ∧
          s' = { s with lock := some i, threads := s.threads.set i { t with phase := .holding } }) ∨
       (t.phase = .holding ∧ s.lock = some i ∧
          s' = { lock := none, cache := (lazyGet src c s.cache n).2,
                 threads := s.threads.set i
                   { todo := r, phase := .idle, results := t.results ++ [(lazyGet src c s.cache n).1] } })) := by
  unfold stepThread at h
  cases ht : s.threads[i]? with
  | none => simp [ht] at h
  | some t =>
    simp only [ht] at h
    cases hp : t.phase <;> cases htd : t.todo <;> simp only [hp, htd] at h
    · cases h
    · split at h <;> cases h
      next hc => exact ⟨t, _, _, rfl, htd, .inl ⟨hp, by simpa using hc, by rw [htd]⟩⟩
    · cases h
    · split at h <;> cases h
      next hc => exact ⟨t, _, _, rfl, htd, .inr ⟨hp, by simpa using hc, rfl⟩⟩

theorem forall_set {α} {P : Nat → α → Prop} {l : List α} {i : Nat} {a : α}
    (hP : ∀ j x, l[j]? = some x → j ≠ i → P j x) (ha : P i a) :
    ∀ j x, (l.set i a)[j]? = some x → P j x := by
  intro j x hj
  rw [List.getElem?_set] at hj
  split at hj
  · next hij =>
    subst hij
    split at hj <;> cases hj
    exact ha
  · next hij => exact hP j x hj (Ne.symm hij)

/-- **Invariants are preserved by every step of every thread** — hence by every schedule. -/
theorem C20_step_inv (src : PSrc) (c : Compile) (s s' : Sys) (i : Nat)
    (hl : LockInv s) (hs : Sound src c s) (h : stepThread src c s i = some s') :
    LockInv s' ∧ Sound src c s' := by
  obtain ⟨t, n, r, ht, htd, ⟨hp, hlk, rfl⟩ | ⟨hp, hlk, rfl⟩⟩ := stepThread_some h
  · -- acquire: nobody held the lock, now `i` does
    refine ⟨⟨forall_set (fun j tj hj hji => ?_) (by simp), forall_set (fun j tj hj _ => hl.2.1 j tj hj) (by simp [htd]),
      fun j hj => ?_⟩, hs.1, forall_set (fun j tj hj _ => hs.2 j tj hj) (hs.2 i t ht)⟩
    · have := hl.1 j tj hj
      simp only [hlk, reduceCtorEq, iff_false] at this
      simp [this, Ne.symm hji]
    · cases hj
      exact ⟨{ t with phase := .holding }, by simp [(List.getElem?_eq_some_iff.mp ht).1]⟩
  · -- release: `i` held it, now nobody does
    obtain ⟨hget, hinv⟩ := C19.C19_lazy_correct src c s.cache n hs.1
    refine ⟨⟨forall_set (fun j tj hj hji => ?_) (by simp), forall_set (fun j tj hj hji => ?_) (by simp),
      fun j hj => nomatch hj⟩, hinv, forall_set (fun j tj hj _ => hs.2 j tj hj) ?_⟩
    · have := hl.1 j tj hj
      simp only [hlk, Option.some.injEq] at this
      simp [this, Ne.symm hji]
    · exact hl.2.1 j tj hj
    · intro x hx
      rcases List.mem_append.mp hx with hx | hx
      · exact hs.2 i t ht x hx
      · exact ⟨n, by rw [List.mem_singleton.mp hx, hget]⟩

/-- a schedule: which thread moves at each instant -/
def runSched (src : PSrc) (c : Compile) : List Nat → Sys → Sys
  | [], s => s
  | i :: r, s => match stepThread src c s i with
    | some s' => runSched src c r s'
    | none => runSched src c r s          -- a thread that cannot move just loses its turn

/-- **Schedule freedom.** Every schedule of every number of threads preserves the two invariants:
the lock is held exactly by the thread in its critical section (`LockInv`); the cache holds only
compilations of its keys, and every result any thread has recorded is `compiled src c n` for some
name `n` (`Sound`) — an answer of the sequential store, also at the first simultaneous use of a
lazily compiled valid or broken partial.  That it is the answer for the name that was asked is
`C20_results_are_sequential`. -/
theorem C20_schedule_free (src : PSrc) (c : Compile) (sched : List Nat) (s : Sys)
    (hl : LockInv s) (hs : Sound src c s) :
    LockInv (runSched src c sched s) ∧ Sound src c (runSched src c sched s) := by
  induction sched generalizing s with
  | nil => exact ⟨hl, hs⟩
  | cons i r ih =>
    simp only [runSched]
    cases hst : stepThread src c s i with
    | none => exact ih s hl hs
    | some s' =>
      obtain ⟨hl', hs'⟩ := C20_step_inv src c s s' i hl hs hst
      exact ih s' hl' hs'

/-- One completed `get`: the thread's results grow by `compiled` of the name at the head of its work
list, and that name is taken off — whatever the others have put into the cache (`Sound`).  (One step;
that all results of a thread are, in order, the answers for the names it asked is the induction over
its steps, which is not stated.) -/
theorem C20_results_are_sequential (src : PSrc) (c : Compile) (s s' : Sys) (i : Nat) (t : TState) (n : Str) (r : List Str)
    (hs : Sound src c s) (ht : s.threads[i]? = some t) (hp : t.phase = .holding) (htd : t.todo = n :: r)
    (hlock : s.lock = some i) (h : stepThread src c s i = some s') :
    ∃ t', s'.threads[i]? = some t' ∧ t'.results = t.results ++ [compiled src c n] ∧ t'.todo = r := by
  rw [stepThread_release src c ht hp htd hlock] at h
  cases h
  refine ⟨{ todo := r, results := t.results ++ [(lazyGet src c s.cache n).1] },
    by simp [(List.getElem?_eq_some_iff.mp ht).1], ?_, rfl⟩
  rw [(C19.C19_lazy_correct src c s.cache n hs.1).1]

/-- **No deadlock.** In every reachable state (lock invariant), as long as some thread still has
work, some thread can move: the holder can always finish its critical section (it is a total
function — parsing never panics, C01, so the mutex is never poisoned), and a free lock can always
be taken. -/
theorem C20_no_deadlock (src : PSrc) (c : Compile) (s : Sys) (hl : LockInv s)
    (hwork : ∃ (i : Nat) (t : TState), s.threads[i]? = some t ∧ t.todo ≠ []) :
    ∃ i, (stepThread src c s i).isSome = true := by
  cases hlk : s.lock with
  | some j =>
    -- the holder exists, is in its critical section and has its `get` to finish
    obtain ⟨tj, htj⟩ := hl.2.2 j hlk
    have hh : tj.phase = Phase.holding := (hl.1 j tj htj).mpr hlk
    obtain ⟨n, r, htd⟩ := List.exists_cons_of_ne_nil (hl.2.1 j tj htj hh)
    exact ⟨j, by rw [stepThread_release src c htj hh htd hlk]; rfl⟩
  | none =>
    obtain ⟨i, t, hti, hne⟩ := hwork
    obtain ⟨n, r, htd⟩ := List.exists_cons_of_ne_nil hne
    have hidle : t.phase = Phase.idle := by
      cases hp : t.phase with
      | idle => rfl
      | holding => have := (hl.1 i t hti).mp hp; rw [hlk] at this; cases this
    exact ⟨i, by rw [stepThread_acquire src c hti hidle htd hlk]; rfl⟩

/-- the start state of any number of threads with any work satisfies the invariants -/
theorem C20_initial (src : PSrc) (c : Compile) (work : List (List Str)) :
    LockInv { threads := work.map fun w => { todo := w } } ∧
    Sound src c { threads := work.map fun w => { todo := w } } := by
  -- every thread is idle and has no results yet
  have key : ∀ (i : Nat) (t : TState), (work.map fun w => ({ todo := w } : TState))[i]? = some t →
      t.phase = .idle ∧ t.results = [] := by
    intro i t ht
    rw [List.getElem?_map] at ht
    cases hw : work[i]? <;> rw [hw] at ht <;> cases ht
    exact ⟨rfl, rfl⟩
  refine ⟨⟨fun i t ht => ?_, fun i t ht hh => ?_, fun j hj => nomatch hj⟩, C19.inv_nil src c, fun i t ht x hx => ?_⟩
  · simp [(key i t ht).1]
  · rw [(key i t ht).1] at hh; cases hh
  · rw [(key i t ht).2] at hx; cases hx

/-- **No poisoning**: the critical section has no panic outcome (the only way a Rust mutex is
poisoned).  This is how the model is typed — `Compile := Str → Option Tmpl`, and `resOfOpt` yields
`.ok` or `.err` — and not the result of an argument: that the parser does not panic is C01's claim,
assumed here. -/
theorem C20_no_poison (src : PSrc) (c : Compile) (σ : Cache) (name : Str) :
    (lazyGet src c σ name).1.isPanic = false := by
  unfold lazyGet
  cases cacheFind σ name with
  | some r => cases r <;> rfl
  | none =>
    cases src.text name with
    | none => rfl
    | some s =>
      simp only []
      cases c s <;> rfl

end Liquid.C20
