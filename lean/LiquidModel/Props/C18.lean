/-
  C18 — scope layers compose predictably (runtime stack algebra).
  Model: `Model/Find.lean` (`Layer`, `Stack.tryGet/get/roots/setGlobal/setIndex/getIndex/regs`),
  transcribed from `runtime/stack.rs` + `runtime/runtime.rs`.
-/
import LiquidModel.Lemmas.Stack
namespace Liquid.C18

/-! ### lookup, by the kind of the innermost layer

`specLookup` is a function on the same `Stack` type as `Stack.tryGet`: the walk written out kind by
kind.  It goes down until a layer binds the first key of the path; a sandbox stops the walk. -/

/-- resolution of a whole path inside the value bound to its first key -/
def resolveIn (d : Obj) (path : List Sc) : Option V := tryFind (.obj d) path

def specLookup : Stack → List Sc → Option V
  | [], _ => none
  | _ :: _, [] => none
  | .sandbox d _ :: _, k :: p => if objContains d k.render then resolveIn d (k :: p) else none
  | .plain d :: r, k :: p | .global d :: r, k :: p | .index d :: r, k :: p =>
    if objContains d k.render then resolveIn d (k :: p) else specLookup r (k :: p)

/-- **Lookup by layer kind.** `try_get` is `specLookup`.  Both are functions on the model's `Stack`
(no abstraction of the state is involved): this is `Stack.tryGet_cons` unfolded per kind of layer. -/
theorem C18_tryGet_refines (st : Stack) (path : List Sc) : st.tryGet path = specLookup st path := by
  induction st with
  | nil => cases path <;> rfl
  | cons l r ih =>
    cases path with
    | nil => cases l <;> rfl
    | cons k p =>
      rw [Stack.tryGet_cons, ih]
      cases l <;> simp [specLookup, resolveIn, Layer.dict, Layer.notSandbox]

/-- `find_eq_ofOpt` at an object and a non-empty path, as the frames of `stack.rs` call `find` (only
when the first key is bound; the equation does not need that, `_h` is unused).  "No panic" because
`ofOpt` is a value or an error. -/
theorem find_no_panic (d : Obj) (k : Sc) (p : List Sc) (_h : objContains d k.render = true) :
    find (.obj d) (k :: p) = ofOpt (tryFind (.obj d) (k :: p)) :=
  find_eq_ofOpt _ _

/-- The prefix search of `find` as it was before commit 1a543f7 (`range' 1 (n - 1)`: the empty prefix
was never tried), spelled out here and not taken from the model, finds no resolvable prefix for
`find(&obj, &["missing"])` on an empty object; in the code the final `panic!` followed (D26). -/
theorem find_old_counterexample :
    (let path := [Sc.str "missing".toList]
     let n := path.length
     (List.range' 1 (n - 1)).any (fun c => (tryFind (.obj []) (path.take (n - c))).isSome)) = false := by
  decide

/-- **The failing and the optional lookup always agree**: `get` succeeds with `v` exactly when
`try_get` returns `v`, fails with an error exactly when `try_get` returns nothing, and never
panics — for every stack and every path. -/
theorem C18_get_tryget (st : Stack) (path : List Sc) :
    st.get path = ofOpt (st.tryGet path) :=
  Stack.get_tryGet st path

/-- **Transparency.** A plain scope answers the names it defines and is transparent otherwise. -/
theorem C18_transparent (d : Obj) (r : Stack) (k : Sc) (p : List Sc) :
    (objContains d k.render = true → Stack.tryGet (Layer.plain d :: r) (k :: p) = resolveIn d (k :: p)) ∧
    (objContains d k.render = false → Stack.tryGet (Layer.plain d :: r) (k :: p) = r.tryGet (k :: p)) := by
  constructor <;> intro h <;> simp [Stack.tryGet_cons, Layer.dict, Layer.notSandbox, h, resolveIn]

/-- **Sandbox hides every outer name**: what lies below a sandboxed scope cannot influence any
lookup or the root listing. -/
theorem C18_sandbox_hides (d : Obj) (g : Regs) (r r' : Stack) (path : List Sc) :
    Stack.tryGet (Layer.sandbox d g :: r) path = Stack.tryGet (Layer.sandbox d g :: r') path ∧
    Stack.get (Layer.sandbox d g :: r) path = Stack.get (Layer.sandbox d g :: r') path ∧
    Stack.roots (Layer.sandbox d g :: r) = Stack.roots (Layer.sandbox d g :: r') := by
  refine ⟨?_, ?_, rfl⟩ <;> cases path <;>
    first | rfl | simp only [Stack.tryGet_cons, get_cons, Layer.notSandbox, Bool.false_eq_true, if_false]

/-- **Pop restores.** A scope that is no global frame hands a global assignment to the runtime
below it and stays, unchanged, on top of the result (or of the failure): the assignment goes
*through* the scope.  So dropping the scope afterwards leaves exactly the underlying runtime with
that assignment applied — the tail of `l :: r'` is `r'`; the statement itself has no pop in it. -/
theorem C18_pop_restores_global (l : Layer) (hl : notGlobal l = true) (r : Stack) (k : Str) (v : V) :
    (Stack.setGlobal (l :: r) k v) = (match Stack.setGlobal r k v with
      | .ok r' => .ok (l :: r') | .err => .err | .io => .io | .panic s => .panic s | .fuel => .fuel) := by
  rw [Stack.setGlobal_cons hl]
  cases Stack.setGlobal r k v <;> rfl

theorem C18_pop_restores_index (l : Layer) (hl : notIndex l = true) (r : Stack) (k : Str) (v : V) :
    (Stack.setIndex (l :: r) k v) = (match Stack.setIndex r k v with
      | .ok r' => .ok (l :: r') | .err => .err | .io => .io | .panic s => .panic s | .fuel => .fuel) := by
  rw [Stack.setIndex_cons hl]
  cases Stack.setIndex r k v <;> rfl

def kind : Layer → Nat | .plain _ => 0 | .sandbox _ _ => 1 | .global _ => 2 | .index _ => 3

/-- A global assignment never changes the number or the kinds of the layers (so "pop" afterwards
removes the same scope that was pushed). -/
theorem C18_setGlobal_shape (st st' : Stack) (k : Str) (v : V) (h : st.setGlobal k v = .ok st') :
    st'.map kind = st.map kind := by
  obtain ⟨a, g, b, _, rfl, rfl⟩ := Stack.setGlobal_ok h
  simp [kind]

/-- layers that neither bind `k` nor hide what is below (no sandbox) -/
def passes (k : Str) : Layer → Bool
  | .plain d | .index d => !objContains d k
  | _ => false

/-- **Nearest global layer.** A global assignment made through any number of plain scopes lands
in the nearest enclosing global layer, and every scope above it that does not itself define the
name sees the new value. -/
theorem C18_set_global_nearest (above : Stack) (g : Obj) (below : Stack) (k : Str) (v : V)
    (hab : above.all (passes k) = true) :
    Stack.setGlobal (above ++ Layer.global g :: below) k v
      = .ok (above ++ Layer.global (objInsert g k v) :: below) ∧
    Stack.tryGet (above ++ Layer.global (objInsert g k v) :: below) [.str k] = some v := by
  have hpass : ∀ l ∈ above, notGlobal l = true ∧ l.notSandbox = true ∧ objContains l.dict k = false := by
    intro l hl
    have := List.all_eq_true.mp hab l hl
    cases l with
    | global _ | sandbox _ _ => cases this
    | _ => exact ⟨rfl, rfl, by simpa [passes, Layer.dict] using this⟩
  refine ⟨Stack.setGlobal_append (List.all_eq_true.mpr fun l hl => (hpass l hl).1) g below k v, ?_⟩
  -- the lookup goes through the same scopes and finds the name in the global layer
  clear hab
  induction above with
  | nil => simp [Stack.tryGet_name_cons, Layer.dict, objInsert_get]
  | cons l r ih =>
    obtain ⟨-, h2, h3⟩ := hpass l List.mem_cons_self
    rw [List.cons_append, Stack.tryGet_cons, Sc.render, h3, h2]
    exact ih fun x hx => hpass x (List.mem_cons_of_mem _ hx)

/-- **Counters are shared by all layers**, sandboxed ones included: a counter set anywhere is read
back everywhere above the index layer, whatever scopes are in between. -/
theorem C18_counters_shared (above : Stack) (c : Obj) (below : Stack) (k : Str) (v : V)
    (hab : above.all notIndex = true) :
    Stack.setIndex (above ++ Layer.index c :: below) k v
      = .ok (above ++ Layer.index (objInsert c k v) :: below) ∧
    Stack.getIndex (above ++ Layer.index (objInsert c k v) :: below) k = some v ∧
    (∀ k', k' ≠ k → Stack.getIndex (above ++ Layer.index (objInsert c k v) :: below) k'
                    = Stack.getIndex (above ++ Layer.index c :: below) k') := by
  -- `get_index` skips what `set_index` skips
  have skip : ∀ (c' : Obj) (k' : Str),
      Stack.getIndex (above ++ Layer.index c' :: below) k' = objGet c' k' := by
    intro c' k'
    induction above with
    | nil => rfl
    | cons l r ih =>
      rw [List.all_cons, Bool.and_eq_true] at hab
      cases l with
      | index _ => cases hab.1
      | _ => exact ih hab.2
  refine ⟨Stack.setIndex_append hab c below k v, by rw [skip, objInsert_get], fun k' h => ?_⟩
  rw [skip, skip, objInsert_get_other _ _ _ _ h]

/-- **Root names are exactly the top-level names that resolve.** -/
theorem C18_roots_exact (st : Stack) (k : Str) :
    k ∈ st.roots ↔ (st.tryGet [.str k]).isSome = true := by
  induction st with
  | nil => simp [Stack.roots, Stack.tryGet]
  | cons l r ih =>
    rw [Stack.roots_cons, Stack.tryGet_name_cons, List.mem_append, ← objContains_iff_mem]
    cases h : objGet l.dict k with
    | some w => simp [contains_of_objGet h]
    | none =>
      rw [← objGet_isSome_iff_contains, h]
      cases l.notSandbox <;> simp [ih]

/-! ### non-vacuity: a lookup in a fresh runtime; two frames that `passes` lets through -/
example : (Rt.build [("a".toList, iV0)]).layers.tryGet [.str "a".toList] = some iV0 := by rfl
  where iV0 : V := .sc (.int 0)
example : [Layer.plain [("x".toList, .nil)], Layer.index []].all (passes "a".toList) = true := by rfl

end Liquid.C18
