/-
  C01 — parsing is total: any text yields a template or an error, never a crash.
  Models: `Model/Lex.lean` (lax lexer of grammar.pest; totality and tiling proved in Lemmas/C03),
  `Model/BlockParse.lean` (element-iterator protocol of parser.rs and the stdlib blocks),
  `Model/Literal.lean` (literal conversion).
-/
import LiquidModel.Model.BlockParse
import LiquidModel.Props.C03
import LiquidModel.Props.C07
import LiquidModel.Generated.Registry
namespace Liquid.C01
open Liquid Liquid.BP

def Out.isPanic : Out → Bool | .panic _ => true | _ => false

theorem next_cases (endTag : Str) (it : List El) :
    match next endTag it with
    | .closed r => ∃ a, it = .tag endTag a true :: r
    | .elem e r => it = e :: r ∧ e ≠ .eoi
    | .err _ => True := by
  cases it with
  | nil => trivial
  | cons x xs =>
    cases x with
    | tag name a n =>
      cases hn : name == endTag with
      | false => simp [next, hn]
      | true =>
        rw [eq_of_beq hn]
        cases n <;> simp only [next, beq_self_eq_true, if_true, Bool.false_eq_true, if_false]
        exact ⟨a, rfl⟩
    | eoi => trivial
    | _ => exact ⟨rfl, nofun⟩

/-- an outcome of a body loop that is fine: no panic, and `Ok` only with the block closed -/
def Good (x : Out × List El × Bool) : Prop := Out.isPanic x.1 = false ∧ (x.1 = .ok → x.2.2 = true)

theorem good_err (r : List El) : Good (.err, r, false) := ⟨rfl, fun h => nomatch h⟩

/-- `assert_empty` cannot fire after a loop that ended well -/
theorem assertEmpty_of_good {x : Out × List El × Bool} (h : Good x) :
    Out.isPanic (match x with
      | (.ok, r, closed) => if closed then (Out.ok, r) else (Out.panic "assert_empty", r)
      | (o, r, _) => (o, r)).1 = false := by
  obtain ⟨o, r, closed⟩ := x
  cases o with
  | ok => rw [show closed = true from h.2 rfl]; rfl
  | _ => exact h.1

/-- one element, then the rest of the loop: fine when the element does not panic and the rest is fine -/
theorem good_step {f : List El → Out × List El × Bool} (hf : ∀ r, Good (f r)) :
    ∀ p : Out × List El, Out.isPanic p.1 = false →
      Good (match p with | (.ok, r') => f r' | (o, r') => (o, r', false)) := by
  intro ⟨o, r'⟩ hp
  cases o with
  | ok => exact hf r'
  | panic s => cases hp
  | _ => exact ⟨rfl, fun h => nomatch h⟩

/-- the same when the element's errors are ignored (tags inside `comment`) -/
theorem good_step_lenient {f : List El → Out × List El × Bool} (hf : ∀ r, Good (f r)) :
    ∀ p : Out × List El, Out.isPanic p.1 = false →
      Good (match p with
        | (.panic s, r') => (.panic s, r', false)
        | (.fuel, r') => (.fuel, r', false)
        | (_, r') => f r') := by
  intro ⟨o, r'⟩ hp
  cases o with
  | panic s => cases hp
  | fuel => exact ⟨rfl, fun h => nomatch h⟩
  | _ => exact hf r'

theorem escapeLiquid_cases (endTag : Str) (it : List El) :
    (∃ r, escapeLiquid endTag it = (.err, r, false)) ∨
    (∃ a r, El.tag endTag a true ∈ it ∧ escapeLiquid endTag it = (.ok, r, true)) := by
  induction it with
  | nil => exact .inl ⟨_, rfl⟩
  | cons x xs ih =>
    -- where the head is passed over, the outcome is that of the tail
    have tl : (∃ r, escapeLiquid endTag xs = (.err, r, false)) ∨
        (∃ a r, El.tag endTag a true ∈ x :: xs ∧ escapeLiquid endTag xs = (.ok, r, true)) :=
      ih.imp_right fun ⟨a, r, hm, h⟩ => ⟨a, r, List.mem_cons_of_mem x hm, h⟩
    cases x with
    | eoi => exact .inl ⟨_, rfl⟩
    | tag name a n =>
      simp only [escapeLiquid]
      split
      · next hc =>
        obtain ⟨h1, rfl⟩ := Bool.and_eq_true _ _ ▸ hc
        exact .inr ⟨a, xs, eq_of_beq h1 ▸ List.mem_cons_self, rfl⟩
      · exact tl
    | _ => exact tl

theorem escapeLiquid_good (endTag : Str) (it : List El) : Good (escapeLiquid endTag it) := by
  rcases escapeLiquid_cases endTag it with ⟨r, h⟩ | ⟨a, r, -, h⟩ <;> rw [h]
  · exact good_err r
  · exact ⟨rfl, fun _ => rfl⟩

theorem specialStep_good (bodyF : BKind → List El → Out × List El × Bool) (elemF : El → List El → Out × List El)
    (hb : ∀ k it, Good (bodyF k it)) (he : ∀ e it, e ≠ .eoi → Out.isPanic (elemF e it).1 = false)
    (kind : BKind) (e : El) (r : List El) (res : Out × List El × Bool)
    (h : specialStep bodyF elemF kind e r = some res) : Good res := by
  have hif : ∀ (c : Bool) k, Good (if c then bodyF k r else (Out.err, r, false)) := by
    intro c k; cases c
    · exact good_err r
    · exact hb k r
  unfold specialStep at h
  split at h
  · -- in `if`: `else`, `elsif`, any other tag
    split at h
    · cases h; exact hb _ _
    · split at h <;> cases h; exact hif _ _
  · -- in `unless`: `else`
    split at h <;> cases h; exact hb _ _
  · -- in `for`: `else`
    split at h <;> cases h; exact hif _ _
  · -- in `case`: `when`, `else`, any other tag
    split at h
    · cases h; exact hif _ _
    · split at h <;> cases h; exact hif _ _
  · next name a n =>
    -- a tag in `comment`: a nested `comment` is parsed in earnest, any other tag only for its panics
    have hp := he (.tag name a n) r nofun
    split at h <;> cases h
    · exact good_step (hb _) _ hp
    · exact good_step_lenient (hb _) _ hp
  · -- anything else in `comment` is skipped
    cases h; exact hb _ _
  · -- no special handling
    cases h

/-- the three mutually recursive protocol functions never reach a panic site, and a block body is
only ever left with `Ok` after its end tag was seen (`closed`), so `assert_empty` cannot fire -/
theorem protocol_no_panic (cfg : Cfg) : ∀ fuel,
    (∀ e it, e ≠ .eoi → Out.isPanic (parseElem cfg fuel e it).1 = false) ∧
    (∀ kind endTag a n it, Out.isPanic (parseBlock cfg fuel kind endTag a n it).1 = false) ∧
    (∀ kind endTag it, Good (body cfg fuel kind endTag it)) := by
  intro fuel
  induction fuel with
  | zero => exact ⟨fun _ _ _ => rfl, fun _ _ _ _ _ => rfl, fun _ _ _ => ⟨rfl, fun h => nomatch h⟩⟩
  | succ fuel ih =>
    obtain ⟨ihE, ihB, ihL⟩ := ih
    refine ⟨?_, ?_, ?_⟩
    · intro e it he
      cases e with
      | eoi => exact absurd rfl he
      | expr ok => cases ok <;> rfl
      | tag name a n =>
        simp only [parseElem]
        split
        · cases a <;> rfl
        · split
          · rfl
          · exact ihB _ _ _ _ _
      | _ => rfl
    · -- the three arms of `parseBlock` (`raw`, `comment`, any other kind): the arguments are rejected,
      -- or `assert_empty` follows a loop that ended well (`escape_liquid` in `raw`, `body` in the others)
      intro kind endTag a n it
      simp only [parseBlock]
      split
      · split
        · rfl
        · exact assertEmpty_of_good (escapeLiquid_good _ _)
      all_goals
        split
        · rfl
        · exact assertEmpty_of_good (ihL _ _ _)
    · intro kind endTag it
      simp only [body]
      cases hn : next endTag it with
      | closed r => exact ⟨rfl, fun _ => rfl⟩
      | err r => exact good_err r
      | elem e r =>
        simp only []
        cases hsp : specialStep (fun k it' => body cfg fuel k endTag it') (parseElem cfg fuel) kind e r with
        | some res => exact specialStep_good _ _ (fun k it' => ihL k endTag it') ihE kind e r res hsp
        | none =>
          have he := next_cases endTag it
          rw [hn] at he
          exact good_step (ihL kind endTag) _ (ihE e r he.2)

theorem parseTop_cons (cfg : Cfg) (fuel : Nat) (e : El) (r : List El) (he : e ≠ .eoi) :
    parseTop cfg (fuel + 1) (e :: r) = match parseElem cfg fuel e r with
      | (.ok, r') => (match r' with | [] => .ok | _ => parseTop cfg fuel r')
      | (o, _) => o := by
  cases e <;> first | rfl | exact absurd rfl he

/-- **The block protocol never panics.** For every registry, every fuel and every element
sequence (arguments accepted or rejected, any nesting, unclosed, mis-nested, invalid elements
anywhere, with or without a final `EOI`) the top-level parse returns a template or an error, or the
model's fuel runs out: neither panic site of the model, `assert_empty` and `BlockElement::from` on
`EOI`, is reachable.  An exhausted iterator is an "Unclosed block" error (repaired, D3). -/
theorem C01_block_no_panic (cfg : Cfg) (fuel : Nat) (it : List El) :
    Out.isPanic (parseTop cfg fuel it) = false := by
  induction fuel generalizing it with
  | zero => rfl
  | succ fuel ih =>
    cases it with
    | nil => rfl
    | cons e r =>
      by_cases he : e = .eoi
      · subst he; rfl
      · rw [parseTop_cons cfg fuel e r he]
        have hp := (protocol_no_panic cfg fuel).1 e r he
        generalize parseElem cfg fuel e r = p at hp ⊢
        obtain ⟨o, r'⟩ := p
        cases o with
        | ok => cases r' with
          | nil => rfl
          | cons _ _ => exact ih _
        | _ => exact hp

/-- **Unknown tags are errors**: a tag element at an executed position whose name is in no
registry is rejected (and consumes nothing further). -/
theorem C01_unknown_is_err (cfg : Cfg) (fuel : Nat) (name : Str) (a n : Bool) (it : List El)
    (ht : cfg.tags.contains name = false) (hb : cfg.block? name = none) :
    parseElem cfg (fuel + 1) (.tag name a n) it = (.err, it) := by
  simp only [parseElem, ht, hb, Bool.false_eq_true, if_false]

/-- **A tag whose arguments its plugin rejects is an error.**  (A block's rejected arguments are
the first branch of `parseBlock`.) -/
theorem C01_bad_args_is_err (cfg : Cfg) (fuel : Nat) (name : Str) (n : Bool) (it : List El)
    (ht : cfg.tags.contains name = true) :
    parseElem cfg (fuel + 1) (.tag name false n) it = (.err, it) := by
  simp only [parseElem, ht, if_true, Bool.false_eq_true, if_false]

/-- **An invalid element at an executed position is an error** (never a panic, never skipped). -/
theorem C01_invalid_is_err (cfg : Cfg) (fuel : Nat) (it : List El) :
    (parseElem cfg (fuel + 1) .invalid it).1 = .err :=
  rfl

/-- an output tag whose filter chain does not parse (unknown filter, wrong arity, bad keyword) -/
theorem C01_bad_expression_is_err (cfg : Cfg) (fuel : Nat) (it : List El) :
    parseElem cfg (fuel + 1) (.expr false) it = (.err, it) :=
  rfl

/-- **Unclosed blocks are errors**, as far as one call of `TagBlock::next` goes: on an iterator
that holds no argument-less tag named like the block's end tag it does not report the block closed.
(`next` looks at the head only; that a whole body loop is left with `Ok` only once closed is the
`Good` of `protocol_no_panic`.) -/
theorem C01_unclosed_is_err (endTag : Str) (it : List El) (h : ∀ a, El.tag endTag a true ∉ it) :
    ∀ r, next endTag it ≠ .closed r := by
  intro r hr
  have := next_cases endTag it
  rw [hr] at this
  obtain ⟨a, rfl⟩ := this
  exact h a List.mem_cons_self

/-- the raw block's scanner: without an argument-less end tag it fails -/
theorem C01_unclosed_raw_is_err (endTag : Str) (it : List El) (h : ∀ a, El.tag endTag a true ∉ it) :
    (escapeLiquid endTag it).1 = .err := by
  rcases escapeLiquid_cases endTag it with ⟨r, h'⟩ | ⟨a, r, hm, -⟩
  · rw [h']
  · exact absurd hm (h a)

/-! ### the lexical layer and literals (proved in Props/C03 and Props/C07) -/

/-- **Lexing is total**, the tiling half: the texts of the elements the lax lexer returns for a
string, one after the other, are that string.  That the elements are non-empty is in `C03_lex_total`. -/
theorem C01_lex_total (g : Lex.Inner) (s : List Char) :
    (Lex.lexLax g s).flatMap Lex.Elem.text = s := C03.C03_tiling g s

/-- **Literal conversion is total**: a matched integer literal is its integer when it fits in 64
bits and an error otherwise — never a panic, never another integer (at the pinned commit: D1). -/
theorem C01_literal_total (s : Str) (hm : matchesIntegerLiteral s = true) (hq : stringLiteral? s = none)
    (hk : s ≠ "nil".toList ∧ s ≠ "null".toList ∧ s ≠ "empty".toList ∧ s ≠ "blank".toList ∧
          s ≠ "true".toList ∧ s ≠ "false".toList) :
    (∃ i, parseLiteral s = .value (.sc (.int i)) ∧ parseI64 s = some i) ∨ parseLiteral s = .outOfRange := by
  rw [C07.parseLiteral_of_int s hm]
  cases h : parseI64 s with
  | none => exact Or.inr rfl
  | some i => exact Or.inl ⟨i, rfl, rfl⟩

theorem C01_literal_out_of_range : parseLiteral "12345678901234567890".toList = .outOfRange :=
  (C07.C07_int_out_of_range).2.2

/-- **The model's registry is the code's registry.** The tags and blocks (with their end tags) that
`ParserBuilder::stdlib` registers — regenerated from src/parser.rs and the reflection impls on every
run — are exactly those of `stdCfg`, the configuration `C01_block_no_panic` is instantiated with by
the harness.  Registering another block, or renaming an end tag, breaks this proof. -/
theorem C01_registry_is_stdCfg :
    Generated.regTags.map String.toList = BP.stdCfg.tags ∧
    Generated.regBlocks.map (fun ab => (ab.1.toList, ab.2.toList)) = BP.stdCfg.blocks.map (fun b => (b.1, b.2.1)) :=
  -- both sides are the same literal table under `map`: unfolding the maps makes them identical
  ⟨rfl, by simp only [Generated.regBlocks, stdCfg, List.map_cons, List.map_nil]⟩

/-! ### non-vacuity: concrete sequences -/
example : parseTop stdCfg 50 [.tag "comment".toList true true, .tag "raw".toList true true, .tag "endcomment".toList true true, .eoi] = .err := by
  decide +kernel
example : parseTop stdCfg 50 [.tag "if".toList true false, .raw, .tag "else".toList true true, .expr true, .tag "endif".toList true true, .eoi] = .ok := by
  decide +kernel
example : parseTop stdCfg 50 [.tag "for".toList true false, .tag "endif".toList true true, .eoi] = .err := by
  decide +kernel

end Liquid.C01
