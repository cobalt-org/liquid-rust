/-
  C07 — variable paths and literals denote the right value or fail loudly.
  Model: `Model/Find.lean` (`convertIndex`, `arrGet`, `augGet`, `tryFind`, `find`), `Model/Ast.lean`
  (`Expr.eval`), `Model/Literal.lean` (`parseLiteral`), `Model/Value.lean` (`intRepr`).
-/
import LiquidModel.Model.Render
import LiquidModel.Model.Literal
import LiquidModel.Props.C18
import LiquidModel.Lemmas.Monad
import LiquidModel.Lemmas.Digits
namespace Liquid.C07

/-! ### array indexing -/

/-- **Index law.** For every array and every index `i` (the whole `i64` range and beyond):
`0 ≤ i < n` selects element `i`, `-n ≤ i < 0` selects element `n + i`, anything else selects
nothing — never a neighbouring element, never a wrap-around. -/
theorem C07_index (xs : List V) (i : Int) :
    arrGet xs i =
      if 0 ≤ i ∧ i < xs.length then xs[i.toNat]?
      else if -(xs.length : Int) ≤ i ∧ i < 0 then xs[(xs.length + i).toNat]?
      else none := by
  unfold arrGet convertIndex
  by_cases h0 : 0 ≤ i
  · by_cases h1 : i < xs.length
    · simp [h0, h1]
    · rw [if_pos h0, if_pos h0, if_neg (by omega), if_neg (by omega)]
      exact List.getElem?_eq_none (by omega)
  · by_cases h1 : -(xs.length : Int) ≤ i
    · rw [if_neg h0, if_pos (by omega), if_neg (by omega), if_pos (by omega)]
    · rw [if_neg h0, if_neg (by omega), if_neg (by omega), if_neg (by omega)]

/-- a selected element is really *the* element at that position -/
theorem C07_index_in_range (xs : List V) (i : Nat) (h : i < xs.length) :
    arrGet xs i = some xs[i] ∧ arrGet xs (-(xs.length : Int) + i) = some xs[i] := by
  constructor
  · rw [C07_index, if_pos (by omega)]
    simp [h]
  · rw [C07_index, if_neg (by omega), if_pos (by omega),
      show ((xs.length : Int) + (-(xs.length : Int) + i)).toNat = i by omega]
    simp [h]

/-! ### first / last / size and colliding keys -/

/-- a step that spells no integer, on an array: only the three names resolve.
(Stated with `=`, to be used by `if_pos` / `if_neg`: handed a hypothesis about `"first".toList`,
`simp` evaluates the string literal character by character, which is slow to check.) -/
theorem augGet_arr_name (xs : List V) (k : Sc) (hi : k.toInteger? = none) :
    augGet (.arr xs) k =
      if k.render = "first".toList then arrGet xs 0 else if k.render = "last".toList then arrGet xs (-1)
      else if k.render = "size".toList then some (.sc (.int xs.length)) else none := by
  simp only [augGet, hi, beq_iff_eq]

/-- **first, last, size by their meaning** on arrays. -/
theorem C07_array_overlay (xs : List V) :
    augGet (.arr xs) (.str "first".toList) = xs[0]? ∧
    augGet (.arr xs) (.str "last".toList) = (if xs.length = 0 then none else xs[xs.length - 1]?) ∧
    augGet (.arr xs) (.str "size".toList) = some (.sc (.int xs.length)) := by
  refine ⟨?_, ?_, ?_⟩
  · rw [augGet_arr_name _ _ (by decide), Sc.render, if_pos rfl, C07_index]
    cases xs <;> simp
  · rw [augGet_arr_name _ _ (by decide), Sc.render, if_neg (by decide), if_pos rfl]
    cases xs with
    | nil => rfl
    | cons x r =>
      have := (C07_index_in_range (x :: r) r.length (by simp)).2
      rw [show -((x :: r).length : Int) + r.length = -1 by simp; omega] at this
      simp [this]
  · rw [augGet_arr_name _ _ (by decide), Sc.render, if_neg (by decide), if_neg (by decide), if_pos rfl]

/-- **What is not a position does not exist.** On an array a step that is neither an integer (nor a
string spelling one) nor one of the three names selects nothing — a decimal such as `1.5`, a
boolean, `nil`, a string like `"nan"` never denote a neighbouring element. -/
theorem C07_array_not_a_position (xs : List V) (k : Sc) (hi : k.toInteger? = none)
    (h1 : k.render ≠ "first".toList) (h2 : k.render ≠ "last".toList) (h3 : k.render ≠ "size".toList) :
    augGet (.arr xs) k = none := by
  rw [augGet_arr_name xs k hi, if_neg h1, if_neg h2, if_neg h3]

example : augGet (.arr [.sc (.int 10), .sc (.int 20)]) (.str "nan".toList) = none := by decide

theorem augGet_obj (kvs : Obj) (k : Sc) :
    augGet (.obj kvs) k = match objGet kvs k.render with
      | some w => some w
      | none => if k.render = "size".toList then some (.sc (.int kvs.length)) else none := by
  simp only [augGet, beq_iff_eq]
  rfl

/-- **An object's own key wins** over the special name; `size` is the number of entries only
when the object has no `size` member. -/
theorem C07_own_key_wins (kvs : Obj) (k : Str) (w : V) (h : objGet kvs k = some w) :
    augGet (.obj kvs) (.str k) = some w := by
  rw [augGet_obj, Sc.render, h]

theorem C07_object_size (kvs : Obj) (h : objGet kvs "size".toList = none) :
    augGet (.obj kvs) (.str "size".toList) = some (.sc (.int kvs.length)) := by
  rw [augGet_obj, Sc.render, h]
  exact if_pos rfl

theorem C07_object_missing (kvs : Obj) (k : Str) (h : objGet kvs k = none) (hk : k ≠ "size".toList) :
    augGet (.obj kvs) (.str k) = none := by
  rw [augGet_obj, Sc.render, h]
  exact if_neg hk

/-- `size` of a string counts characters, not bytes (repaired, D14); that no other step resolves on
a scalar is `C07_scalar_no_members`. -/
theorem C07_string_size (s : Str) :
    augGet (.sc (.str s)) (.str "size".toList) = some (.sc (.int s.length)) := by
  simp only [augGet, Sc.render, beq_self_eq_true, if_true]

/-! ### missing steps fail loudly -/

/-- **Step by step.** A path resolves exactly when every step resolves, each on the value produced
by the previous one. -/
theorem C07_stepwise (v : V) (i : Sc) (p : List Sc) :
    tryFind v (i :: p) = (augGet v i).bind (fun c => tryFind c p) := by
  simp only [tryFind]
  cases augGet v i <;> rfl

/-- a path through an array step that is not a position (`C07_array_not_a_position`) resolves to
nothing, whatever follows the step — and an output tag over it fails (`C07_output_missing_is_err`) -/
theorem C07_array_not_a_position_path (xs : List V) (k : Sc) (p : List Sc) (hi : k.toInteger? = none)
    (h1 : k.render ≠ "first".toList) (h2 : k.render ≠ "last".toList) (h3 : k.render ≠ "size".toList) :
    tryFind (.arr xs) (k :: p) = none := by
  rw [C07_stepwise, C07_array_not_a_position xs k hi h1 h2 h3]
  rfl

/-- **A scalar has no members**: any step other than `size` on a number, string, boolean or date
fails — so a path that goes on after a counter (an integer that only `increment` / `decrement`
created) does not silently return the counter. -/
theorem C07_scalar_no_members (s : Sc) (k : Sc) (p : List Sc) (h : k.render ≠ "size".toList) :
    augGet (.sc s) k = none ∧ tryFind (.sc s) (k :: p) = none := by
  have h1 : augGet (.sc s) k = none := by
    simp only [augGet, beq_eq_false_iff_ne.mpr h, Bool.false_eq_true, if_false]
  exact ⟨h1, by rw [C07_stepwise, h1]; rfl⟩

/-- The `IndexFrame` case of `Stack::try_get` / `get` with the frame innermost: a path whose first
key the frame's dictionary (where `increment` / `decrement` keep their counters) binds is resolved
in that dictionary, the rest of the path handed to the value like anywhere else.  Counters and failure
do not occur in the statement; that a path going on after a counter fails follows with
`C07_scalar_no_members`. -/
theorem C07_counter_paths_resolve (c : Obj) (below : Stack) (k : Sc) (p : List Sc)
    (hb : objContains c k.render = true) :
    Stack.tryGet (.index c :: below) (k :: p) = tryFind (.obj c) (k :: p) ∧
    Stack.get (.index c :: below) (k :: p) = find (.obj c) (k :: p) := by
  rw [Stack.tryGet_cons, C18.get_cons, C18.find_eq_ofOpt]
  exact ⟨if_pos hb, if_pos hb⟩

/-- **Missing is an error.** If any step of a variable's path does not exist the failing lookup is
an error (never nil, never a neighbour), and an output tag over it fails. -/
theorem C07_missing_is_err (st : Stack) (root : Str) (idx : List Expr) (p : List Sc)
    (hp : evalIdx st idx = .ok p) (hm : st.tryGet (.str root :: p) = none) :
    Expr.eval st (.var root idx) = .err := by
  simp [Expr.eval, hp, C18.C18_get_tryget, hm, C18.ofOpt]

theorem C07_output_missing_is_err (fuel : Nat) (env : Env) (rt : Rt) (w : W) (root : Str) (idx : List Expr)
    (p : List Sc) (hp : evalIdx rt.layers idx = .ok p) (hm : rt.layers.tryGet (.str root :: p) = none) :
    renderN (fuel + 1) env (.output (.var root idx) []) rt w = (.err, rt, w) := by
  have h := C07_missing_is_err rt.layers root idx p hp hm
  have hc : evalChain env rt.layers (.var root idx) [] = .err := by
    simp [evalChain, h, bind, Res.bind]
  simp [renderN, hc]

/-- and when every step exists the output tag prints exactly the value found -/
theorem C07_output_found (fuel : Nat) (env : Env) (rt : Rt) (w : W) (root : Str) (idx : List Expr)
    (p : List Sc) (v : V) (hp : evalIdx rt.layers idx = .ok p) (hm : rt.layers.tryGet (.str root :: p) = some v) :
    renderN (fuel + 1) env (.output (.var root idx) []) rt w = M.emit v.render rt w := by
  have hc : evalChain env rt.layers (.var root idx) [] = .ok v := by
    simp [evalChain, Expr.eval, hp, C18.C18_get_tryget, hm, C18.ofOpt, bind, Res.bind, List.foldlM, pure]
  simp [renderN, hc]

/-! ### literals -/

theorem matchesIntegerLiteral_intRepr (n : Int) : matchesIntegerLiteral (intRepr n) = true := by
  have hd : (natDigits n.natAbs).all Char.isDigit = true := by simpa using natDigits_isDigit n.natAbs
  have hne := natDigits_ne_nil n.natAbs
  unfold intRepr matchesIntegerLiteral
  by_cases hn : n < 0
  · simp [hn, hd, hne]
  · obtain ⟨c, r, e, h1, h2⟩ := digits_head hne (natDigits_isDigit n.natAbs)
    simpa [hn, e, h1, h2] using hd

/-- **Integer literals over the whole 64-bit range.** For every `n` in `[i64::MIN, i64::MAX]` the
decimal text of `n` is an integer literal, converts to the integer `n`, and an output tag prints
that same text. -/
theorem C07_int_roundtrip (n : Int) (h : inI64 n = true) :
    matchesIntegerLiteral (intRepr n) = true ∧
    parseI64 (intRepr n) = some n ∧
    (V.sc (.int n)).render = intRepr n :=
  ⟨matchesIntegerLiteral_intRepr n, parseI64_intRepr n h, rfl⟩

/-- An integer literal is no keyword and no string literal, so its conversion is that of its digits:
the integer when it fits in 64 bits, an error otherwise (never a panic, never another integer). -/
theorem parseLiteral_of_int (s : Str) (hm : matchesIntegerLiteral s = true) :
    parseLiteral s = match parseI64 s with
      | some i => .value (.sc (.int i))
      | none => .outOfRange := by
  have hk : ∀ w ∈ ["nil", "null", "empty", "blank", "true", "false"], (s == String.toList w) = false := by
    intro w hw
    have : matchesIntegerLiteral w.toList = false := by revert w; decide
    exact beq_eq_false_iff_ne.mpr fun e => by rw [e, this] at hm; cases hm
  have hq : stringLiteral? s = none := by
    cases s with
    | nil => rfl
    | cons q r =>
      -- a literal that starts with a quote has a first character that is neither a sign nor a digit
      have hd : (q == '\'' || q == '"') = false := by
        cases h : (q == '\'' || q == '"')
        · rfl
        · rcases Bool.or_eq_true _ _ ▸ h with h | h
          all_goals
            rw [eq_of_beq h] at hm
            simp [matchesIntegerLiteral, Char.isDigit] at hm
      simp only [stringLiteral?, hd, Bool.false_eq_true, if_false]
  simp only [parseLiteral, hk "nil" (by simp), hk "null" (by simp), hk "empty" (by simp), hk "blank" (by simp),
    hk "true" (by simp), hk "false" (by simp), Bool.or_self, Bool.false_eq_true, if_false, hq, hm, if_true]
  cases parseI64 s <;> rfl

/-- the form with the keyword and quote conditions spelled out (they follow from `hm`) -/
theorem C07_int_literal (s : Str) (hm : matchesIntegerLiteral s = true) (hq : stringLiteral? s = none)
    (hk : s ≠ "nil".toList ∧ s ≠ "null".toList ∧ s ≠ "empty".toList ∧ s ≠ "blank".toList ∧
          s ≠ "true".toList ∧ s ≠ "false".toList) :
    parseLiteral s = match parseI64 s with
      | some i => .value (.sc (.int i))
      | none => .outOfRange :=
  parseLiteral_of_int s hm

/-- `9223372036854775808` (one past `i64::MAX`) is rejected — at the pinned commit this input
crashed the parser (D1). -/
theorem C07_int_out_of_range : parseLiteral "9223372036854775808".toList = .outOfRange ∧
    parseLiteral "-9223372036854775809".toList = .outOfRange ∧
    parseLiteral "12345678901234567890".toList = .outOfRange := by
  refine ⟨by rfl, by rfl, by rfl⟩

/-- **String literals.** In either quote style the content between the quotes is preserved
exactly, for every content that does not contain that quote. -/
theorem C07_string_literal (q : Char) (body : Str) (hq : q = '\'' ∨ q = '"') (hb : body.contains q = false) :
    stringLiteral? (q :: (body ++ [q])) = some body := by
  unfold stringLiteral?
  have : (q == '\'' || q == '"') = true := by rcases hq with h | h <;> simp [h]
  have hb' : ¬ q ∈ body := by simpa using hb
  simp [this, hb']

/-- `true`, `false`, `nil`/`null`, `empty`, `blank` denote themselves. -/
theorem C07_bool_nil :
    parseLiteral "true".toList = .value (.sc (.bool true)) ∧
    parseLiteral "false".toList = .value (.sc (.bool false)) ∧
    parseLiteral "nil".toList = .value .nil ∧ parseLiteral "null".toList = .value .nil ∧
    parseLiteral "empty".toList = .value (.st .empty) ∧ parseLiteral "blank".toList = .value (.st .blank) ∧
    (V.sc (.bool true)).render = "true".toList ∧ (V.sc (.bool false)).render = "false".toList ∧
    V.nil.render = [] := by
  refine ⟨by rfl, by rfl, by rfl, by rfl, by rfl, by rfl, by rfl, by rfl, by rfl⟩

/-! ### non-vacuity -/
example : inI64 i64Min = true ∧ inI64 i64Max = true := by decide
example : arrGet [iV 7, iV 8, iV 9] (-1) = some (iV 9) := by rfl
example : parseI64 (intRepr i64Min) = some i64Min := (C07_int_roundtrip i64Min (by decide)).2.1

end Liquid.C07
