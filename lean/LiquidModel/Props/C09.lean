/-
  C09 — rendering is repeatable: no state survives from one render into another.
  Model: `renderTop` (`src/template.rs`: a fresh runtime per call), the lazy partial cache
  (`Model/Partials.lean`) — the only state a parser threads between renders.
-/
import LiquidModel.Props.C19
import LiquidModel.Lemmas.Scope
namespace Liquid.C09

/-- the result of one render call on a parser whose lazy store is in state `σ`.  The store state the
call leaves behind is not computed: the theorems below hold for every state the cache invariant
allows, so which names a render touched is irrelevant to them. -/
def renderOn (src : PSrc) (c : Compile) (filters : Str → Option (V → List V → Res V)) (fuel : Nat)
    (σ : Cache) (t : Tmpl) (globals : Obj) : Res Str :=
  renderTop fuel (lazyEnv src c σ filters) t globals

/-- **Cache invariant** (inductive over every history): the lazy cache only holds compilations
of the source of their key; it holds initially and every `get` — hit, miss, failure — keeps it. -/
theorem C09_cache_inv (src : PSrc) (c : Compile) :
    C19.Inv src c [] ∧
    ∀ σ name, C19.Inv src c σ → C19.Inv src c (lazyGet src c σ name).2 :=
  ⟨C19.inv_nil src c, fun σ name h => (C19.C19_lazy_correct src c σ name h).2⟩

/-- **History freedom.** Whatever was rendered before — any number of renders of any templates
with any data, successful or failed, leaving the store in any state `σ` the invariant allows —
a render gives exactly what the same (template, data) gives on a freshly built parser (`σ = []`),
which is a function of the template, the partial sources and the data alone. -/
theorem C09_history_free (src : PSrc) (c : Compile) (ht : src.Truthful)
    (filters : Str → Option (V → List V → Res V)) (fuel : Nat) (σ : Cache) (h : C19.Inv src c σ)
    (t : Tmpl) (globals : Obj) :
    renderOn src c filters fuel σ t globals = renderOn src c filters fuel [] t globals := by
  unfold renderOn
  rw [(C19.C19_render_equiv src c ht σ h filters fuel t globals).1,
      (C19.C19_render_equiv src c ht [] (C19.inv_nil src c) filters fuel t globals).1]

/-- the same for a whole history: the i-th result does not depend on the store states reached -/
theorem C09_history (src : PSrc) (c : Compile) (ht : src.Truthful)
    (filters : Str → Option (V → List V → Res V)) (fuel : Nat)
    (calls : List (Cache × Tmpl × Obj)) (h : ∀ x ∈ calls, C19.Inv src c x.1) :
    calls.map (fun x => renderOn src c filters fuel x.1 x.2.1 x.2.2) =
    calls.map (fun x => renderOn src c filters fuel [] x.2.1 x.2.2) :=
  List.map_congr_left fun x hx => C09_history_free src c ht filters fuel x.1 (h x hx) x.2.1 x.2.2

/-- **Every render starts from a fresh runtime**: no assigned variable, counter, cycle position,
ifchanged memory or pending break/continue exists when a render begins — the start state is a
function of the caller's data only. -/
theorem C09_fresh_runtime (globals : Obj) :
    (Rt.build globals).layers = [.global [], .plain globals, .index []] ∧
    (Rt.build globals).regs.interrupt = none ∧ (Rt.build globals).regs.cycles = [] ∧
    (Rt.build globals).regs.lastChanged = none :=
  ⟨rfl, rfl, rfl, rfl⟩

/-- **A render (failed or not) hands nothing back but its result**, and never modifies the data it
was given — so the caller can reuse the same data object for the next render. -/
theorem C09_data_reusable (env : Env) (fuel : Nat) (t : Tmpl) (globals : Obj) (w : W) :
    ((renderT fuel env t (Rt.build globals) w).2.1).layers[1]? = some (Layer.plain globals) :=
  (renderT_keeps_plains env fuel t (Rt.build globals) w).2 1 globals rfl

end Liquid.C09
