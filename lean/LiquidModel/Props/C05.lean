/-
  C05 — loops visit exactly the selected elements, with truthful loop metadata.
  Model: `Model/Render.lean` (`iterArray`, `rangeInts`, `getArray`, `forloopObj`, `tablerowObj`,
  `loopItems`, `renderList`).
-/
import LiquidModel.Lemmas.Shape
import LiquidModel.Lemmas.ForNode
namespace Liquid.C05

/-- The specification of offset/limit/reversed: drop, take, optionally reverse. -/
def selectSpec (xs : List V) (limit : Option Nat) (offset : Nat) (reversed : Bool) : List V :=
  let s := (xs.drop offset).take (limit.getD xs.length)
  if reversed then s.reverse else s

/-- **Window.** `iter_array` selects exactly `drop offset |> take limit` (reversed on demand):
nothing invented, nothing lost, for every array, offset, limit (also those far beyond the length,
e.g. the `usize` image of a negative number). -/
theorem C05_window (xs : List V) (limit : Option Nat) (offset : Nat) (rev : Bool) :
    iterArray xs limit offset rev = selectSpec xs limit offset rev := by
  -- the `resize` never pads: the clamped limit is at most what is left, and taking the clamped or the
  -- given limit from what is left is the same
  have key : iterWindow xs limit offset = (xs.drop offset).take (limit.getD xs.length) := by
    unfold iterWindow
    simp only [← List.drop_eq_drop_min]
    have hleft : xs.length - min offset xs.length = (xs.drop offset).length := by
      rw [List.length_drop]
      omega
    rw [hleft]
    cases limit with
    | none =>
      have hle : (xs.drop offset).length ≤ xs.length := List.length_drop ▸ Nat.sub_le _ _
      rw [if_pos (Nat.le_refl _), List.take_eq_take_iff, Nat.min_self, Option.getD_none, Nat.min_eq_right hle]
    | some l =>
      rw [if_pos (Nat.min_le_right _ _), List.take_eq_take_iff]
      exact Nat.min_eq_left (Nat.min_le_right _ _)
  unfold iterArray selectSpec
  simp only [key]

/-- Corollary: the selection never contains a padded element: its length is
`min limit (len - offset)`. -/
theorem C05_window_length (xs : List V) (limit : Option Nat) (offset : Nat) (rev : Bool) :
    (iterArray xs limit offset rev).length = min (limit.getD xs.length) (xs.length - offset) := by
  rw [C05_window]; unfold selectSpec; split <;> simp

/-- The code at the pinned commit violated the window law (D11): five elements, `limit:4
offset:3` yields the two remaining elements *and two phantom nils*.  Replayed on the
implementation by corpus case `C05/d11`. -/
theorem C05_window_old_counterexample :
    iterArrayOld [iV 1, iV 2, iV 3, iV 4, iV 5] (some 4) 3 false = [iV 4, iV 5, .nil, .nil] := by
  rfl

/-- **Ranges.** `(a..b)` denotes exactly the integers `a, a+1, …, b` (empty when `b < a`). -/
theorem C05_range_length (a b : Int) : (rangeInts a b).length = (b - a + 1).toNat := by
  unfold rangeInts; split
  · simp
  · simp; omega

theorem C05_range_get (a b : Int) (k : Nat) (h : k < (rangeInts a b).length) :
    (rangeInts a b)[k] = iV (a + k) := by
  unfold rangeInts at h ⊢
  split
  next => simp [iV]
  next hab => simp [hab] at h

theorem C05_range_empty (a b : Int) (h : b < a) : rangeInts a b = [] := by
  unfold rangeInts; simp; omega

/-- **Collections.** What a loop iterates: an array's elements, an object's `[key, value]` pairs,
nothing for nil / `empty` / `blank`, and an error for any other scalar. -/
theorem C05_collection (v : V) :
    getArray v = match v with
      | .arr xs => .ok xs
      | .obj kvs => .ok (kvs.map fun (k, w) => V.arr [.sc (.str k), w])
      | .st _ => .ok []
      | .nil => .ok []
      | .sc _ => .err := by
  cases v <;> rfl

/-! ### forloop / tablerow fields -/

def fld (o : V) (k : String) : Option V :=
  match o with
  | .obj kvs => objGet kvs k.toList
  | _ => none

/-- **forloop is truthful.** In iteration `i` of `n` (0-based), every field says what it should. -/
theorem C05_forloop_truthful (i n : Nat) (p : V) :
    let o := forloopObj i n p
    fld o "length" = some (iV n) ∧
    fld o "index0" = some (iV i) ∧
    fld o "index" = some (iV (i + 1)) ∧
    fld o "rindex0" = some (iV ((n : Int) - i - 1)) ∧
    fld o "rindex" = some (iV ((n : Int) - i)) ∧
    fld o "first" = some (bV (i == 0)) ∧
    fld o "last" = some (bV ((i : Int) == (n : Int) - 1)) ∧
    fld o "parentloop" = some p := by
  simp [forloopObj, fld, objGet, iV, bV]
  cases i <;> simp; omega

/-- `last` is true exactly in the final iteration, `first` exactly in the first. -/
theorem C05_forloop_first_last (i n : Nat) (p : V) :
    (fld (forloopObj i n p) "first" = some (bV true) ↔ i = 0) ∧
    (fld (forloopObj i n p) "last" = some (bV true) ↔ i + 1 = n) := by
  have := C05_forloop_truthful i n p
  obtain ⟨_, _, _, _, _, hf, hl, _⟩ := this
  rw [hf, hl]
  simp [bV]
  omega

/-- **tablerow is truthful.** With `c` columns, element `i` of `n` sits in column `i % c`
(1-based `col`), and `col_last` holds at the last column of a row or at the very last element. -/
theorem C05_tablerow_truthful (i n c : Nat) :
    let o := tablerowObj i n (i % c) c
    fld o "length" = some (iV n) ∧
    fld o "index0" = some (iV i) ∧
    fld o "index" = some (iV (i + 1)) ∧
    fld o "rindex0" = some (iV ((n : Int) - i - 1)) ∧
    fld o "rindex" = some (iV ((n : Int) - i)) ∧
    fld o "first" = some (bV (i == 0)) ∧
    fld o "last" = some (bV ((i : Int) == (n : Int) - 1)) ∧
    fld o "col0" = some (iV ((i % c : Nat) : Int)) ∧
    fld o "col" = some (iV ((i % c : Nat) + 1)) ∧
    fld o "col_first" = some (bV ((i % c) == 0)) ∧
    fld o "col_last" = some (bV ((((i % c : Nat) : Int) + 1 == (c : Int)) || ((i : Int) == (n : Int) - 1))) := by
  simp [tablerowObj, fld, objGet, iV, bV]
  constructor
  · cases i <;> simp; omega
  · have h1 : ((i : Int) % (c : Int) = 0) ↔ (i % c = 0) := by omega
    rw [Bool.eq_iff_iff]; simp only [beq_iff_eq]; exact h1

/-! ### visiting order, continue, break -/

/-- **Empty selection.** The loop driver on nothing renders nothing and changes nothing. -/
theorem C05_loop_nil (step : V → Nat → M (Option Intr)) (i : Nat) (rt : Rt) (w : W) :
    loopItems step [] i rt w = (.ok (), rt, w) := rfl

/-- **One iteration, no break.** If the body for the element at position `i` succeeds and the
interrupt it consumed was not `break` (i.e. none, or a `continue`), the loop goes on with the
*next* element at position `i + 1`: `continue` skips only the rest of the current iteration. -/
theorem C05_loop_step (step : V → Nat → M (Option Intr)) (i : Nat) (v : V) (r : List V)
    (rt rt' : Rt) (w w' : W) (intr : Option Intr)
    (hstep : step v i rt w = (.ok intr, rt', w')) (hnb : intr ≠ some .brk) :
    loopItems step (v :: r) i rt w = loopItems step r (i + 1) rt' w' := by
  rw [loopItems, M.run_bind_ok _ _ _ _ _ _ _ hstep]
  simp [hnb]

/-- **break.** If the body requested `break`, the loop stops right there with success and the
remaining elements are not visited. -/
theorem C05_loop_break (step : V → Nat → M (Option Intr)) (i : Nat) (v : V) (r : List V)
    (rt rt' : Rt) (w w' : W)
    (hstep : step v i rt w = (.ok (some .brk), rt', w')) :
    loopItems step (v :: r) i rt w = (.ok (), rt', w') := by
  rw [loopItems, M.run_bind_ok _ _ _ _ _ _ _ hstep]
  simp

/-- **Errors stop the loop.** -/
theorem C05_loop_err (step : V → Nat → M (Option Intr)) (i : Nat) (v : V) (r : List V)
    (rt rt' : Rt) (w w' : W) (o : Res (Option Intr))
    (hstep : step v i rt w = (o, rt', w')) (ho : o.isOk = false) :
    (loopItems step (v :: r) i rt w).1.isOk = false := by
  rw [loopItems, M.run_bind_notok _ _ _ _ _ _ _ hstep ho]
  cases o <;> simp_all [Res.isOk, M.castErr]

/-- **Frames are balanced.** Rendering a loop body (any template) leaves exactly the frames it was
given: the loop variable's frame is the one dropped afterwards, so the variable stops existing
when its loop ends and nothing else is lost. -/
theorem C05_body_keeps_frames (env : Env) (fuel : Nat) (body : Tmpl) (rt : Rt) (w : W) :
    ((renderT fuel env body rt w).2.1).layers.shape = rt.layers.shape :=
  renderT_keeps_frames env fuel body rt w

/-- **The interrupt is consumed by the loop that sees it**: whatever the body of a `for`
iteration did, after a successful iteration the interrupt register is clear again and the frames
are those from before the iteration — so `break` ends, and `continue` skips in, only the
innermost `for`; the enclosing loop carries on. -/
theorem C05_break_innermost (env : Env) (fuel : Nat) (x : Str) (len : Nat) (parent : V) (body : Tmpl)
    (v : V) (i : Nat) (rt rt' : Rt) (w w' : W) (intr : Option Intr)
    (h : forStep x len parent (renderT fuel env body) v i rt w = (.ok intr, rt', w')) :
    rt'.regs.interrupt = none ∧ rt'.layers.shape = rt.layers.shape := by
  unfold forStep M.inFrames at h
  simp only [M.run_bind] at h
  generalize objInsert (objInsert [] "forloop".toList (forloopObj i len parent)) x v = root at h
  have hsh := renderT_keeps_frames env fuel body { rt with layers := [Layer.plain root] ++ rt.layers } w
  rcases hb : renderT fuel env body { rt with layers := [Layer.plain root] ++ rt.layers } w with ⟨r1, rt1, w1⟩
  rw [hb] at h hsh
  cases r1 with
  | ok u =>
    simp only [takeInterruptM, M.bind'_getRegs, M.bind'_setRegs, M.run_pure, Prod.mk.injEq] at h
    obtain ⟨_, rfl, _⟩ := h
    have h2 := (Rt.setRegs_shape rt1 { rt1.regs with interrupt := none }).trans hsh
    exact ⟨by rw [show [Layer.plain root].length = 1 from rfl, Rt.regs_pop h2 Nat.zero_ne_one, Rt.regs_setRegs],
      Stack.shape_drop h2⟩
  | _ => simp at h

/-- **Visits, in order, once each.** For a body that just writes `f v i` (no interrupts, no state),
the loop's output is the outputs for the selected elements in order with positions `i, i+1, …`. -/
theorem C05_visits_in_order (f : V → Nat → Str) (hne : ∀ v i, f v i ≠ [])
    (items : List V) (i : Nat) (rt : Rt) (out : List Str) :
    loopItems (fun v i => do M.emit (f v i); pure none) items i rt { out := out, budget := none } =
      (.ok (), rt, { out := out ++ (items.zipIdx i).map (fun (v, j) => f v j), budget := none }) := by
  induction items generalizing i out with
  | nil => simp [loopItems]
  | cons v r ih =>
    have hw : (do M.emit (f v i); pure none : M (Option Intr)) rt { out := out, budget := none }
        = (.ok none, rt, { out := out ++ [f v i], budget := none }) := by
      simp [M.run_bind, M.emit, W.write, hne]
    rw [C05_loop_step _ i v r rt rt _ _ none hw (by simp)]
    have := ih (i + 1) (out ++ [f v i])
    simp [this, List.zipIdx_cons]

/-- a block body: after an element leaves an interrupt pending, the remaining elements of this
body are skipped — that is all `continue`/`break` do inside the body. -/
theorem C05_body_skips_rest (f : Node → M Unit) (n : Node) (r : Tmpl) (rt rt' : Rt) (w w' : W)
    (h : f n rt w = (.ok (), rt', w')) (hi : rt'.regs.interrupt.isSome = true) :
    renderList f (n :: r) rt w = (.ok (), rt', w') := by
  rw [renderList, M.run_bind_ok _ _ _ _ _ _ _ h]
  simp [hi]

theorem C05_body_goes_on (f : Node → M Unit) (n : Node) (r : Tmpl) (rt rt' : Rt) (w w' : W)
    (h : f n rt w = (.ok (), rt', w')) (hi : rt'.regs.interrupt = none) :
    renderList f (n :: r) rt w = renderList f r rt' w' := by
  rw [renderList, M.run_bind_ok _ _ _ _ _ _ _ h]
  simp [hi]

-- the window on the input of `C05_window_old_counterexample`, a reversed window, and `hi` of the
-- end-to-end theorems below at a fresh runtime
example : selectSpec [iV 1, iV 2, iV 3, iV 4, iV 5] (some 4) 3 false = [iV 4, iV 5] := by rfl
example : iterArray [iV 1, iV 2, iV 3, iV 4, iV 5] (some 2) 1 true = [iV 3, iV 2] := by rfl
example : (Rt.build []).regs.interrupt = none := rfl

/-! ### end to end -/

/-- **else runs exactly when nothing is selected — and in the enclosing scope.** With an empty
selection the tag is exactly its `else` body rendered where the tag stands: no iteration frame, and
an interrupt the `else` body raises is NOT consumed (a `break` there belongs to the enclosing
loop); with a non-empty selection the `else` body is not rendered at all. -/
theorem C05_else_iff_empty (fuel : Nat) (env : Env) (x : Str) (rng : RangeE) (limit offset : Option Expr)
    (rev : Bool) (body : Tmpl) (els : Option Tmpl) (rt : Rt) (w : W) (arr : List V) (lim off : Option Nat)
    (hr : rng.eval rt.layers = .ok arr) (hl : evalAttr rt.layers limit = .ok lim)
    (ho : evalAttr rt.layers offset = .ok off) :
    (selectSpec arr lim (off.getD 0) rev = [] →
      renderN (fuel + 1) env (.for_ x rng limit offset rev body els) rt w =
        (match els with
         | some t => renderList (renderN fuel env) t rt w
         | none => (.ok (), rt, w))) ∧
    (selectSpec arr lim (off.getD 0) rev ≠ [] →
      renderN (fuel + 1) env (.for_ x rng limit offset rev body els) rt w =
        loopItems (forStep x (selectSpec arr lim (off.getD 0) rev).length
          ((rt.layers.tryGet [.str "forloop".toList]).getD .nil) (renderList (renderN fuel env) body))
          (selectSpec arr lim (off.getD 0) rev) 0 rt w) := by
  rw [← C05_window]
  simp only [renderN, M.bind'_getSt, hr, hl, ho, M.bind'_lift_ok]
  constructor
  · intro he
    rw [he]
    cases els <;> rfl
  · intro hne
    cases hs : iterArray arr lim (off.getD 0) rev with
    | nil => exact absurd hs hne
    | cons v r => rfl

/-- **The whole tag, for any pure-printing body.** If the body, run in the frame of iteration `i` of
`len` over element `v` (pushed over any runtime), just prints `f len v i` and leaves the runtime as
it was, then the `for` tag (no interrupt pending, a sink that cannot fail) prints `f len v i` for
exactly the selected elements `v` in order, with `i = 0, 1, …` and `len` the size of the selection —
compositional form of `C05_for_prints_window`. -/
theorem C05_for_compositional (fuel : Nat) (env : Env) (x : Str) (rng : RangeE) (limit offset : Option Expr)
    (rev : Bool) (body : Tmpl) (f : Nat → V → Nat → Str) (rt : Rt) (w : W) (arr : List V) (lim off : Option Nat)
    (hr : rng.eval rt.layers = .ok arr) (hl : evalAttr rt.layers limit = .ok lim)
    (ho : evalAttr rt.layers offset = .ok off)
    (hi : rt.regs.interrupt = none) (hb : w.budget = none)
    (hbody : ∀ len parent v i, ForNode.WritesIn (renderList (renderN fuel env) body)
      (ForNode.iterRoot x len parent v i) (f len v i)) :
    ∃ rt' w', renderN (fuel + 1) env (.for_ x rng limit offset rev body none) rt w = (.ok (), rt', w') ∧
      w'.text = w.text ++ (((selectSpec arr lim (off.getD 0) rev).zipIdx 0).map fun (v, j) =>
        f (selectSpec arr lim (off.getD 0) rev).length v j).flatten := by
  have heq := C05_else_iff_empty fuel env x rng limit offset rev body none rt w arr lim off hr hl ho
  generalize selectSpec arr lim (off.getD 0) rev = items at heq ⊢
  cases items with
  | nil => exact ⟨rt, w, heq.1 rfl, by simp⟩
  | cons v r =>
    obtain ⟨w', h, _, ht⟩ := ForNode.Prints.loopItems (f := f (v :: r).length)
      (fun v' j => ForNode.forStep_prints x _ _ v' j _ _ (hbody _ _ v' j) rt hi) (v :: r) 0 w hb
    exact ⟨rt, w', (heq.2 (List.cons_ne_nil _ _)).trans h, ht⟩

/-- **The whole tag.** For every collection expression, `limit:`/`offset:` attributes and direction,
in a runtime without pending interrupt (`hi`) and into a sink that cannot fail (`hb`):
`{% for x in R limit:l offset:o [reversed] %}{{ x }}{% endfor %}` succeeds and
appends exactly the renderings of `drop o |> take l` of the collection (reversed on demand), in
order, once each — through attribute evaluation, `iter_array`, the loop driver, the per-iteration
frame, the lookup of `x` in it, the output tag and the interrupt register; nothing is written when
the selection is empty. -/
theorem C05_for_prints_window (fuel : Nat) (env : Env) (x : Str) (rng : RangeE) (limit offset : Option Expr)
    (rev : Bool) (rt : Rt) (w : W) (arr : List V) (lim off : Option Nat)
    (hr : rng.eval rt.layers = .ok arr) (hl : evalAttr rt.layers limit = .ok lim)
    (ho : evalAttr rt.layers offset = .ok off)
    (hi : rt.regs.interrupt = none) (hb : w.budget = none) :
    ∃ rt' w', renderN (fuel + 2) env (.for_ x rng limit offset rev [.output (.var x []) []] none) rt w
        = (.ok (), rt', w') ∧
      w'.text = w.text ++ ((selectSpec arr lim (off.getD 0) rev).map V.render).flatten := by
  obtain ⟨rt', w', h, ht⟩ := C05_for_compositional (fuel + 1) env x rng limit offset rev _ (fun _ v _ => v.render)
    rt w arr lim off hr hl ho hi hb (fun len parent v i => ForNode.writesIn_var fuel env x _ v)
  refine ⟨rt', w', h, ?_⟩
  rw [ht]
  conv => rhs; rw [← List.zipIdx_map_fst 0 (selectSpec arr lim (off.getD 0) rev), List.map_map]
  rfl

/-- **forloop.index / forloop.length, end to end.** `{% for x in R … %}{{ forloop.index }}{% endfor %}`
prints `1 2 … n` and `{{ forloop.length }}` prints `n` each time, where `n` is the size of the
selection (after offset/limit), whatever the collection — the loop metadata seen by the template is
the truthful one of `C05_forloop_truthful`. -/
theorem C05_for_prints_index (fuel : Nat) (env : Env) (x : Str) (hx : x ≠ "forloop".toList) (rng : RangeE)
    (limit offset : Option Expr) (rev : Bool) (rt : Rt) (w : W) (arr : List V) (lim off : Option Nat)
    (hr : rng.eval rt.layers = .ok arr) (hl : evalAttr rt.layers limit = .ok lim)
    (ho : evalAttr rt.layers offset = .ok off)
    (hi : rt.regs.interrupt = none) (hb : w.budget = none) :
    (∃ rt' w', renderN (fuel + 2) env (.for_ x rng limit offset rev
        [.output (.var "forloop".toList [.lit (.sc (.str "index".toList))]) []] none) rt w = (.ok (), rt', w') ∧
      w'.text = w.text ++ (((selectSpec arr lim (off.getD 0) rev).zipIdx 0).map fun (_, j) => (iV (j + 1)).render).flatten) ∧
    (∃ rt' w', renderN (fuel + 2) env (.for_ x rng limit offset rev
        [.output (.var "forloop".toList [.lit (.sc (.str "length".toList))]) []] none) rt w = (.ok (), rt', w') ∧
      w'.text = w.text ++ (((selectSpec arr lim (off.getD 0) rev).zipIdx 0).map fun (_, _) =>
        (iV (selectSpec arr lim (off.getD 0) rev).length).render).flatten) := by
  constructor
  · refine C05_for_compositional (fuel + 1) env x rng limit offset rev _ (fun _ _ j => (iV (j + 1)).render)
      rt w arr lim off hr hl ho hi hb (fun len parent v i => ?_)
    refine ForNode.writesIn_forloop_field fuel env x len parent v i _ _ hx ?_
    have h := (C05_forloop_truthful i len parent).2.2.1
    exact ⟨_, rfl, by simpa [fld, forloopObj] using h⟩
  · refine C05_for_compositional (fuel + 1) env x rng limit offset rev _ (fun len _ _ => (iV len).render)
      rt w arr lim off hr hl ho hi hb (fun len parent v i => ?_)
    refine ForNode.writesIn_forloop_field fuel env x len parent v i _ _ hx ?_
    have h := (C05_forloop_truthful i len parent).1
    exact ⟨_, rfl, by simpa [fld, forloopObj] using h⟩

/-- **tablerow, end to end.** For every collection, `cols:`/`limit:`/`offset:` attributes (`cols` not
zero) and every pure-printing body, with no interrupt pending and a sink that cannot fail: the tag
writes, for exactly the selected elements in order, a `<tr class="rowR">` before the first cell of
each row of `cols` cells, each cell as `<td class="colC">body</td>`, and `</tr>` after the last cell
of a row and after the very last cell (`cellText`); without `cols:` the whole selection is one row. -/
theorem C05_tablerow_compositional (fuel : Nat) (env : Env) (x : Str) (rng : RangeE) (cols limit offset : Option Expr)
    (body : Tmpl) (f : Nat → Nat → V → Nat → Str) (rt : Rt) (w : W) (arr : List V) (c lim off : Option Nat)
    (hr : rng.eval rt.layers = .ok arr) (hc : evalAttr rt.layers cols = .ok c) (hc0 : c ≠ some 0)
    (hl : evalAttr rt.layers limit = .ok lim) (ho : evalAttr rt.layers offset = .ok off)
    (hi : rt.regs.interrupt = none) (hb : w.budget = none)
    (hbody : ∀ len ncols v i, ForNode.WritesIn (renderList (renderN fuel env) body)
      (ForNode.cellRoot x len ncols v i) (f len ncols v i)) :
    let sel := selectSpec arr lim (off.getD 0) false
    ∃ w', renderN (fuel + 1) env (.tablerow x rng cols limit offset body) rt w = (.ok (), rt, w') ∧
      w'.text = w.text ++ ((sel.zipIdx 0).map fun (v, j) =>
        ForNode.cellText sel.length (c.getD sel.length) j (f sel.length (c.getD sel.length) v j)).flatten := by
  intro sel
  have hsel : iterArray arr lim (off.getD 0) false = sel := C05_window arr lim (off.getD 0) false
  have hc0' : (c == some 0) = false := beq_false_of_ne hc0
  simp only [renderN, M.bind'_getSt, hr, hc, hl, ho, M.bind'_lift_ok, hc0', Bool.false_eq_true, if_false, hsel]
  cases hs : sel with
  | nil => exact ⟨w, rfl, by simp⟩
  | cons v r =>
    obtain ⟨w', h, _, ht⟩ := ForNode.Prints.tableItems
      (fun v' j => ForNode.tablerowStep_prints x _ _ (ncols_ne_zero hc0 v r) v' j _ _ (hbody _ _ v' j) rt hi) (v :: r) 0 w hb
    exact ⟨w', h, ht⟩

/-- the instance with the body `{{ x }}` -/
theorem C05_tablerow_prints_window (fuel : Nat) (env : Env) (x : Str) (rng : RangeE) (cols limit offset : Option Expr)
    (rt : Rt) (w : W) (arr : List V) (c lim off : Option Nat)
    (hr : rng.eval rt.layers = .ok arr) (hc : evalAttr rt.layers cols = .ok c) (hc0 : c ≠ some 0)
    (hl : evalAttr rt.layers limit = .ok lim) (ho : evalAttr rt.layers offset = .ok off)
    (hi : rt.regs.interrupt = none) (hb : w.budget = none) :
    let sel := selectSpec arr lim (off.getD 0) false
    ∃ w', renderN (fuel + 2) env (.tablerow x rng cols limit offset [.output (.var x []) []]) rt w = (.ok (), rt, w') ∧
      w'.text = w.text ++ ((sel.zipIdx 0).map fun (v, j) =>
        ForNode.cellText sel.length (c.getD sel.length) j v.render).flatten :=
  C05_tablerow_compositional (fuel + 1) env x rng cols limit offset _ (fun _ _ v _ => v.render) rt w arr c lim off
    hr hc hc0 hl ho hi hb (fun _ _ v _ => ForNode.writesIn_var fuel env x _ v)

/-- what a cell looks like: first cell of a two-column table, and the closing of a row -/
example : ForNode.cellText 3 2 0 "a".toList = "<tr class=\"row1\"><td class=\"col1\">a</td>".toList ∧
    ForNode.cellText 3 2 1 "b".toList = "<td class=\"col2\">b</td></tr>".toList ∧
    ForNode.cellText 3 2 2 "c".toList = "<tr class=\"row2\"><td class=\"col1\">c</td></tr>".toList := by
  decide +kernel

/-- non-vacuity: a literal three-element array with `offset:1` on a fresh runtime -/
example : ∃ rt' w', renderN 2 {} (.for_ "x".toList (.arr (.lit (.arr [iV 1, iV 2, iV 3]))) none (some (.lit (iV 1))) false
      [.output (.var "x".toList []) []] none) (Rt.build []) {} = (.ok (), rt', w') ∧ w'.text = "23".toList :=
  ⟨_, _, rfl, rfl⟩

/-- **`include` is transparent for interrupts** (and for every other register): what an `include`
leaves in the runtime is exactly what the partial's body left, minus the argument frame — in
particular a `break` / `continue` raised inside the partial is still pending for the enclosing loop
of the including template; `include` neither clears nor raises one. -/
theorem C05_include_transparent (fuel : Nat) (env : Env) (name : Expr) (args : List (Str × Expr))
    (rt : Rt) (w : W) (s : Sc) (pass : Obj) (t : Tmpl)
    (hn : name.eval rt.layers = .ok (.sc s)) (ha : evalVars rt.layers args [] = .ok pass)
    (hp : lookupPartial env s.render = .ok t) :
    renderN (fuel + 1) env (.include_ name args) rt w =
      (match renderT fuel env t { rt with layers := .plain pass :: rt.layers } w with
       | (r, rt', w') => (r, { rt' with layers := rt'.layers.drop 1 }, w')) := by
  simp [renderN, hn, ha, hp, M.inFrames, renderT]

/-- so the registers after an `include` — the pending interrupt among them — are the ones the
partial's body left behind -/
theorem C05_include_keeps_interrupt (fuel : Nat) (env : Env) (name : Expr) (args : List (Str × Expr))
    (rt : Rt) (w : W) (s : Sc) (pass : Obj) (t : Tmpl)
    (hn : name.eval rt.layers = .ok (.sc s)) (ha : evalVars rt.layers args [] = .ok pass)
    (hp : lookupPartial env s.render = .ok t) :
    (renderN (fuel + 1) env (.include_ name args) rt w).2.1.regs =
      (renderT fuel env t { rt with layers := .plain pass :: rt.layers } w).2.1.regs := by
  rw [C05_include_transparent fuel env name args rt w s pass t hn ha hp]
  exact Rt.regs_pop (renderT_keeps_frames env fuel t { rt with layers := .plain pass :: rt.layers } w) Nat.zero_ne_one

end Liquid.C05
