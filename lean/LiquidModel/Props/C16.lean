/-
  C16 — escape / escape_once / url_encode / url_decode / strip_html are safe and invertible.
  Models: `Model/Html.lean` = filters/html.rs, `Model/Url.lean` = filters/url.rs with the parts of
  `percent-encoding` and `core::str::from_utf8` it rests on.  The statements use the vocabulary of `Spec/C16.lean`.  `SafeEnt`/`inLang`,
  `UrlLang`/`urlLang`, `HasTag`/`hasTag` are each a notion stated as a proposition and the executable
  test that the driver runs on the implementation's output: the `_exec` theorems are about the test,
  `C16_inLang_iff` and `C16_hasTag_iff` say that notion and test agree (for `urlLang` only
  `UrlLang t → urlLang t = true` is proved, `urlLang_sound`).
-/
import LiquidModel.Lemmas.C16
namespace Liquid.C16
open Liquid Liquid.Html Liquid.Url

/-! ### escape -/

/-- **Safe output.**  The output of `escape` is a sequence of characters other than `< > ' " &`
and of the five entities — for every input string. -/
theorem C16_escape_safe (s : Str) : SafeEnt (escape s) := by
  induction s with
  | nil => exact .nil
  | cons c r ih => rw [escape_cons]; exact escChar_safeEnt c _ ih

/-- `inLang`, the executable test run on the implementation's output, decides exactly that
language `(Safe | Entity)*`. -/
theorem C16_inLang_iff (t : Str) : inLang t = true ↔ SafeEnt t := by
  constructor
  · induction t using once_induction with
    | nil => exact fun _ => .nil
    | chr c r hc ih =>
      rw [lang_chr c r hc, Bool.and_eq_true, Bool.not_eq_true']
      exact fun h => .safe c r h.1 (ih h.2)
    | amp r h _ => rw [lang_amp r h]; exact fun h => absurd h (by decide)
    | ent ch tail r' hm ih =>
      rw [lang_ent hm]
      exact fun h => .ent ('&' :: tail) r' (List.mem_map.mpr ⟨_, hm, rfl⟩) (ih h)
  · intro h
    induction h with
    | nil => rfl
    | safe c t hc _ ih => rw [lang_chr c t (ne_amp_of_not_special hc), hc, ih]; rfl
    | ent e t he _ ih => obtain ⟨ch, tail, rfl, hm⟩ := mem_entityStrs he; rw [lang_ent hm, ih]

/-- The output of `escape` passes the executable test `inLang`. -/
theorem C16_escape_safe_exec (s : Str) : inLang (escape s) = true :=
  (C16_inLang_iff _).mpr (C16_escape_safe s)

/-- **Invertible.**  Replacing the five entities back (`unescape`) in the output of `escape` yields
the input. -/
theorem C16_unescape_escape (s : Str) : unescape (escape s) = s := by
  induction s with
  | nil => rfl
  | cons c r ih => rw [escape_cons, unescape_escChar, ih]

/-- `escape` is injective (corollary of invertibility). -/
theorem C16_escape_injective (s t : Str) (h : escape s = escape t) : s = t := by
  rw [← C16_unescape_escape s, ← C16_unescape_escape t, h]

/-- `escape` has no context: each character is replaced on its own (the `skip` counter of the
shared loop is never armed when `once_p` is false). -/
theorem C16_escape_pointwise (s : Str) : escape s = s.flatMap escChar := by
  induction s with
  | nil => rfl
  | cons c r ih => rw [escape_cons, ih]; rfl

/-! ### escape_once -/

/-- The output of `escape_once` is in `(Safe | Entity)*` as well. -/
theorem C16_once_safe (s : Str) : SafeEnt (escapeOnce s) := by
  induction s using once_induction with
  | nil => exact .nil
  | chr c r hc ih => rw [once_chr c r hc]; exact escChar_safeEnt c _ ih
  | amp r h ih => rw [once_amp r h]; exact escChar_safeEnt '&' _ ih
  | ent ch tail r' hm ih => rw [once_ent hm]; exact .ent ('&' :: tail) _ (List.mem_map.mpr ⟨_, hm, rfl⟩) ih

/-- **Idempotent.**  Applying `escape_once` twice equals applying it once. -/
theorem C16_once_idem (s : Str) : escapeOnce (escapeOnce s) = escapeOnce s := by
  induction s using once_induction with
  | nil => rfl
  | chr c r hc ih => rw [once_chr c r hc, once_escChar, ih]
  | amp r h ih => rw [once_amp r h]; exact (once_escChar '&' _).trans (by rw [ih]; rfl)
  | ent ch tail r' hm ih => rw [once_ent hm, once_ent hm, ih]

/-- **Existing entities stay untouched**, wherever they stand: an entity `e` between any `p` and
any `t` is copied verbatim, and `p`, `t` are treated exactly as they would be alone. -/
theorem C16_once_keeps_entities (p t e : Str) (he : e ∈ entityStrs) :
    escapeOnce (p ++ e ++ t) = escapeOnce p ++ e ++ escapeOnce t := by
  obtain ⟨ch, tail, rfl, hm⟩ := mem_entityStrs he
  rw [List.append_assoc, List.cons_append, once_append_amp, ← List.cons_append, once_ent hm, List.append_assoc]

/-- `escape_once` neither loses nor double-escapes anything: after replacing entities back, input
and output read the same. -/
theorem C16_once_unescape (s : Str) : unescape (escapeOnce s) = unescape s := by
  induction s using once_induction with
  | nil => rfl
  | chr c r hc ih => rw [once_chr c r hc, unesc_chr c r hc, unescape_escChar, ih]
  | amp r h ih => rw [once_amp r h, unesc_amp r h]; exact (unescape_escChar '&' _).trans (by rw [ih])
  | ent ch tail r' hm ih => rw [once_ent hm, unesc_ent hm, unesc_ent hm, ih]

/-- What `escape` produced is a fixed point of `escape_once`. -/
theorem C16_once_after_escape (s : Str) : escapeOnce (escape s) = escape s := by
  induction s with
  | nil => rfl
  | cons c r ih => rw [escape_cons, once_escChar, ih]

/-- On a string without `&`, `escape_once` is `escape`. -/
theorem C16_once_eq_escape (s : Str) (h : '&' ∉ s) : escapeOnce s = escape s := by
  induction s with
  | nil => rfl
  | cons c r ih =>
    simp only [List.mem_cons, not_or] at h
    rw [once_chr c r (fun hc => h.1 hc.symm), escape_cons, ih h.2]

/-! ### url_encode / url_decode -/

/-- **Alphabet.**  `url_encode` emits only ASCII letters, digits, `-`, `.`, `_` and `%`. -/
theorem C16_url_charset (s : Str) : ∀ c ∈ urlEncode s, isUnreservedChar c = true ∨ c = '%' :=
  urlLang_chars (urlLang_asciiStr_pctEncode _ (utf8Enc_lt s))

/-- More precisely, the output of `url_encode` is a sequence of unreserved characters and of `%`
followed by two upper-case hex digits. -/
theorem C16_url_shape (s : Str) : UrlLang (urlEncode s) :=
  urlLang_asciiStr_pctEncode _ (utf8Enc_lt s)

/-- The output of `url_encode` passes the executable test `urlLang`. -/
theorem C16_url_shape_exec (s : Str) : urlLang (urlEncode s) = true := urlLang_sound (C16_url_shape s)

/-- The bytes left alone by the `FRAGMENT` set (`NON_ALPHANUMERIC` minus `-._`, as transcribed from
`percent-encoding`) are exactly the ASCII letters, digits, `-`, `.`, `_`. -/
theorem C16_url_unreserved_exact (b : Nat) (hb : b < 256) :
    shouldEncode b = false ↔
      ((48 ≤ b ∧ b ≤ 57) ∨ (65 ≤ b ∧ b ≤ 90) ∨ (97 ≤ b ∧ b ≤ 122) ∨ b = 45 ∨ b = 46 ∨ b = 95) :=
  (byte_table b hb).1

/-- UTF-8 decoding inverts encoding: the bytes of every string are accepted by `from_utf8` and read
back as that string. -/
theorem C16_utf8_roundtrip (s : Str) : utf8Dec (utf8Enc s) = some s := by
  induction s with
  | nil => rfl
  | cons c r ih => rw [utf8Enc_cons, utf8Dec_enc1, ih]; rfl

/-- Whatever `from_utf8` accepts is the encoding of what it returns (no two byte strings decode to
the same text). -/
theorem C16_utf8_dec_exact (bs : List Nat) (t : Str) (h : utf8Dec bs = some t) : utf8Enc t = bs :=
  utf8Enc_of_dec bs t h

theorem utf8Dec_eq_some_iff (bs : List Nat) (t : Str) : utf8Dec bs = some t ↔ utf8Enc t = bs :=
  ⟨utf8Enc_of_dec bs t, fun h => h ▸ C16_utf8_roundtrip t⟩

/-- **Round trip.**  `url_decode` inverts `url_encode` for every string. -/
theorem C16_url_roundtrip (s : Str) : urlDecode (urlEncode s) = .ok s := by
  unfold urlDecode
  rw [decodedBytes_urlEncode, C16_utf8_roundtrip]

/-- **Invalid UTF-8 is an error.**  When the percent-decoded bytes are not valid UTF-8,
`url_decode` fails with an error (never a panic, never a lossy string). -/
theorem C16_url_bad_utf8_is_err (s : Str) (h : validUtf8 (decodedBytes s) = false) : urlDecode s = .err := by
  unfold urlDecode; unfold validUtf8 at h
  cases hd : utf8Dec (decodedBytes s) with
  | none => rfl
  | some t => rw [hd] at h; cases h

/-- `url_decode` returns the string `t` exactly when the percent-decoded bytes are the UTF-8 encoding
of `t`. -/
theorem C16_url_decode_ok_iff (s t : Str) : urlDecode s = .ok t ↔ utf8Enc t = decodedBytes s := by
  unfold urlDecode
  rw [← utf8Dec_eq_some_iff]
  cases utf8Dec (decodedBytes s) <;> simp

/-- **No panic**, at the string level: on every string `url_decode` ends in an error or in a string,
the two outcomes of `Res` other than `Res.panic`.  (`percent_decode` and `decode_utf8` have no
panic site, so the model `urlDecode` has no panic outcome to reach; the theorem records that.) -/
theorem C16_url_decode_total (s : Str) : urlDecode s = .err ∨ ∃ t, urlDecode s = .ok t := by
  unfold urlDecode
  cases utf8Dec (decodedBytes s) with
  | none => exact .inl rfl
  | some t => exact .inr ⟨t, rfl⟩

/-! ### strip_html -/

/-- The executable "has a complete tag" test is the stated notion. -/
theorem C16_hasTag_iff (s : Str) : hasTag s = true ↔ HasTag s := by
  constructor
  · induction s with
    | nil => nofun
    | cons x r ih =>
      rw [hasTag]
      split
      · intro h
        subst x
        obtain ⟨b, c, rfl⟩ := List.append_of_mem (List.contains_iff_mem.mp h)
        exact ⟨[], b, c, rfl⟩
      · intro h
        obtain ⟨a, b, c, rfl⟩ := ih h
        exact ⟨x :: a, b, c, rfl⟩
  · rintro ⟨a, b, c, rfl⟩
    induction a with
    | nil => simp [hasTag]
    | cons x a ih =>
      rw [List.cons_append, List.cons_append, hasTag]
      split
      · simp
      · exact ih

/-- **No complete tag survives.**  The output of `strip_html` contains no `<` with a `>`
somewhere behind it — for every input, also nested ones like `<scr<script>ipt>`. -/
theorem C16_strip_no_tag (s : Str) : ¬ HasTag (stripHtml s) := by
  rw [← C16_hasTag_iff, Bool.not_eq_true]
  exact stripTags_no_tag _ 0

/-- The output of `strip_html` fails the executable test `hasTag`. -/
theorem C16_strip_no_tag_exec (s : Str) : hasTag (stripHtml s) = false := stripTags_no_tag _ 0

/-- Nothing is invented or reordered: the output is a subsequence of the input. -/
theorem C16_strip_sublist (s : Str) : (stripHtml s).Sublist s := by
  unfold stripHtml stripTags stripPass
  exact (((stripGo_sublist _ _ _ 0).trans (stripGo_sublist _ _ _ 0)).trans (stripGo_sublist _ _ _ 0)).trans (stripGo_sublist _ _ _ 0)

/-- Text without any `<` passes through unchanged (so the no-tag theorem is not met by deleting
everything). -/
theorem C16_strip_plain_unchanged (s : Str) (h : '<' ∉ s) : stripHtml s = s := by
  unfold stripHtml stripTags stripPass scriptOpen styleOpen commentOpen tagOpen
  rw [stripGo_no_lt _ _ s h, stripGo_no_lt _ _ s h, stripGo_no_lt _ _ s h, stripGo_no_lt _ _ s h]

/-- **No panic**, at the filter level: `escape`, `escape_once`, `strip_html`, `url_encode` and
`url_decode`, applied to any value with any list of positional arguments, return a value or an
error, never `Res.panic`.  (The models have no panic outcome: the header of `Model/Html.lean` says
why the slices and the `unreachable!()` of `fn escape` are no panic sites.  So every leaf of the five
definitions is `.ok` or `.err`, and the theorem records that.) -/
theorem C16_filters_never_panic (v : V) (args : List V) :
    (escapeFilter false v args).isPanic = false ∧ (escapeFilter true v args).isPanic = false ∧
    (stripHtmlFilter v args).isPanic = false ∧ (urlEncodeFilter v args).isPanic = false ∧
    (urlDecodeFilter v args).isPanic = false := by
  have esc : ∀ once, (escapeFilter once v args).isPanic = false := by
    intro once; unfold escapeFilter; repeat' split
    all_goals rfl
  refine ⟨esc false, esc true, ?_, ?_, ?_⟩
  · unfold stripHtmlFilter; repeat' split
    all_goals rfl
  · unfold urlEncodeFilter; repeat' split
    all_goals rfl
  · unfold urlDecodeFilter; repeat' split
    all_goals rfl

/-! ### non-vacuity / concrete behaviour -/

example : escape ['1', '<', '2', '&', '3'] = "1&lt;2&amp;3".toList := by decide
example : escapeOnce ['&', 'a', 'm', 'p'] = "&amp;amp".toList := by decide
example : escapeOnce ['&', 'l', 't', ';', ';'] = "&lt;;".toList := by decide
example : escapeOnce ['&', '&', 'l', 't', ';'] = "&amp;&lt;".toList := by decide
example : escape ['&', 'l', 't', ';'] = "&amp;lt;".toList := by decide
example : unescape "&amp;lt;".toList = "&lt;".toList := by decide
-- the entity list of `C16_once_keeps_entities` is inhabited
example : ['&', '#', '3', '9', ';'] ∈ entityStrs := by decide
-- a string that is NOT in the language, so `C16_escape_safe` says something
example : inLang ['a', '<'] = false := by decide
example : inLang ['&', 'l', 't'] = false := by decide
example : urlEncode ['a', ' ', '+', 'é', '~'] = "a%20%2B%C3%A9%7E".toList := by decide
example : urlDecode ['%', 'C', '3', '%', 'A', '9', '+', '%', '2'] = .ok ['é', ' ', '%', '2'] := by rfl
example : validUtf8 (decodedBytes ['%', 'F', 'F']) = false := by decide
example : urlDecode ['%', 'E', 'D', '%', 'A', '0', '%', '8', '0'] = .err := by rfl   -- surrogate
example : urlDecode ['%', 'C', '0', '%', 'A', 'F'] = .err := by rfl                  -- overlong
example : urlDecode ['%', 'F', '4', '%', '9', '0', '%', '8', '0', '%', '8', '0'] = .err := by rfl  -- > U+10FFFF
example : stripHtml "<scr<script>ipt>".toList = "ipt>".toList := by decide
example : stripHtml "a<ScRiPt>x</sCrIpT>b<!-- > -->c<p\n>d".toList = "abcd".toList := by decide +kernel
example : stripHtml "<script>alert(1)".toList = "alert(1)".toList := by decide
example : hasTag "a<b>".toList = true := by decide
example : HasTag ['<', '>'] := ⟨[], [], [], rfl⟩

end Liquid.C16
