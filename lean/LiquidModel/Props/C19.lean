/-
  C19 — eager, lazy and on-demand partial compilation are observationally equivalent.
  Model: `Model/Partials.lean`.
-/
import LiquidModel.Model.Partials
namespace Liquid.C19

/-- the lazy cache only ever holds the compilation of the source text of its key -/
def Inv (src : PSrc) (c : Compile) (σ : Cache) : Prop :=
  ∀ n r, cacheFind σ n = some r → ∃ s, src.text n = some s ∧ r = c s

theorem inv_nil (src : PSrc) (c : Compile) : Inv src c [] :=
  fun _ _ h => nomatch h

/-- **Lazy = by definition.** In any state satisfying the cache invariant a lazy `get` answers
exactly `compiled`, and leaves a state satisfying the invariant (whether it hit, compiled and
inserted, or failed). -/
theorem C19_lazy_correct (src : PSrc) (c : Compile) (σ : Cache) (name : Str) (h : Inv src c σ) :
    (lazyGet src c σ name).1 = compiled src c name ∧ Inv src c (lazyGet src c σ name).2 := by
  unfold lazyGet compiled
  cases hf : cacheFind σ name with
  | some r =>
    obtain ⟨s, hs, hr⟩ := h name r hf
    simp [hs, hr, h]
  | none =>
    cases hs : src.text name with
    | none => simp [h]
    | some s =>
      refine ⟨rfl, fun n r hn => ?_⟩
      simp only [cacheFind] at hn
      split at hn
      · next hk => cases hn; exact ⟨s, eq_of_beq hk ▸ hs, rfl⟩
      · exact h n r hn

theorem find_map_key (names : List Str) (f : Str → Option Tmpl) (name : Str) :
    (names.map fun n => (n, f n)).find? (·.1 == name) = if name ∈ names then some (name, f name) else none := by
  induction names with
  | nil => rfl
  | cons a r ih =>
    rw [List.map_cons, List.find?_cons, ih]
    by_cases h : a = name
    · simp [h]
    · simp [beq_eq_false_iff_ne.mpr h, Ne.symm h]

/-- **Eager = by definition**, for a source whose name listing is truthful. -/
theorem C19_eager_correct (src : PSrc) (c : Compile) (ht : src.Truthful) (name : Str) :
    storeGet (eagerStore src c) name = compiled src c name := by
  unfold storeGet eagerStore compiled
  rw [find_map_key]
  have hm := ht name
  cases hs : src.text name <;> simp [hs] at hm <;> simp [hm]

/-- **On demand = by definition**: ondemand.rs compiles at every `get`, so the model defines
`onDemandGet` as `compiled`, and this holds by unfolding. -/
theorem C19_ondemand_correct (src : PSrc) (c : Compile) (name : Str) :
    onDemandGet src c name = compiled src c name := rfl

/-- **Observational equivalence over every history.** Whatever sequence of names is asked for, a
lazy store started empty answers each `get` exactly as the eager and the on-demand store do. -/
theorem C19_equiv (src : PSrc) (c : Compile) (ht : src.Truthful) (hist : List Str) (σ : Cache) (h : Inv src c σ) :
    (lazyRun src c hist σ).1 = hist.map (storeGet (eagerStore src c)) ∧
    (lazyRun src c hist σ).1 = hist.map (onDemandGet src c) ∧
    Inv src c (lazyRun src c hist σ).2 := by
  induction hist generalizing σ with
  | nil => exact ⟨rfl, rfl, h⟩
  | cons n r ih =>
    obtain ⟨h1, h2⟩ := C19_lazy_correct src c σ n h
    obtain ⟨i1, i2, i3⟩ := ih _ h2
    simp only [lazyRun, List.map_cons]
    refine ⟨?_, ?_, i3⟩
    · rw [i1, h1, C19_eager_correct src c ht]
    · rw [i2, h1]
      rfl

/-- **Repeated use gives the first result**, within and across renders. -/
theorem C19_repeat (src : PSrc) (c : Compile) (σ : Cache) (h : Inv src c σ) (name : Str) :
    (lazyGet src c (lazyGet src c σ name).2 name).1 = (lazyGet src c σ name).1 := by
  obtain ⟨h1, h2⟩ := C19_lazy_correct src c σ name h
  rw [(C19_lazy_correct src c _ name h2).1, h1]

/-- **Errors are deferred and local.** Building a store never fails (each is a plain value); a
missing or unparsable partial makes exactly the `get`s that name it fail, no others. -/
theorem C19_deferred (src : PSrc) (c : Compile) (name : Str) :
    compiled src c name = .err ↔ (src.text name = none ∨ ∃ s, src.text name = some s ∧ c s = none) := by
  unfold compiled
  cases hs : src.text name with
  | none => simp
  | some s => cases hc : c s <;> simp [resOfOpt, hc]

/-- **The same render under the three policies.** With stores that answer alike the interpreter
cannot tell them apart: output and failure are identical. -/
theorem C19_render_equiv (src : PSrc) (c : Compile) (ht : src.Truthful) (σ : Cache) (h : Inv src c σ)
    (filters : Str → Option (V → List V → Res V)) (fuel : Nat) (t : Tmpl) (globals : Obj) :
    renderTop fuel (lazyEnv src c σ filters) t globals = renderTop fuel (eagerEnv src c filters) t globals ∧
    renderTop fuel (onDemandEnv src c filters) t globals = renderTop fuel (eagerEnv src c filters) t globals := by
  have e1 : lazyEnv src c σ filters = eagerEnv src c filters := by
    unfold lazyEnv eagerEnv
    congr 1
    funext n
    rw [(C19_lazy_correct src c σ n h).1, C19_eager_correct src c ht]
  have e2 : onDemandEnv src c filters = eagerEnv src c filters := by
    unfold onDemandEnv eagerEnv
    congr 1
    funext n
    rw [C19_eager_correct src c ht]
    rfl
  rw [e1, e2]
  exact ⟨rfl, rfl⟩

/-- **The `name.liquid` fallback of `render` is a function of the two lookups alone** — the same
under every store policy (C19_equiv makes the lookups agree): the partial stored under `name` when it
can be had, otherwise — missing or unparsable alike — whatever the lookup of `name.liquid` gives. -/
theorem C19_render_fallback (env : Env) (name : Str) :
    (∀ t, lookupPartial env name = .ok t → lookupPartialR env name = .ok t) ∧
    ((∀ t, lookupPartial env name ≠ .ok t) →
        lookupPartialR env name = lookupPartial env (name ++ ".liquid".toList)) := by
  constructor
  · intro t h; simp [lookupPartialR, h]
  · intro h
    unfold lookupPartialR
    cases hl : lookupPartial env name with
    | ok t => exact absurd hl (h t)
    | _ => rfl

/-! ### non-vacuity -/
def exSrc : PSrc := { names := ["p".toList], text := fun n => if n == "p".toList then some "x".toList else none }
example : exSrc.Truthful := by
  intro n
  unfold exSrc
  by_cases h : n = "p".toList <;> simp [h]

end Liquid.C19
