/-
  C13 — string filters compute their documented function on every string, counting and cutting in
  characters, never bytes, and satisfy the laws that follow from those definitions.
  Model: `Model/StrFilters.lean` (`StrF.apply`, `StrF.chain`, `StrF.table`) and `Model/Render.lean`
  (`evalChain`).

  Unicode data is a parameter `u : Uni` (case maps, grapheme segmentation); every theorem holds for
  every `u`; where a theorem needs the segmentation to be a segmentation at all (a partition into
  non-empty pieces) that is the hypothesis `IsSeg u.seg`, which `segSimple_isSeg` shows satisfiable.
-/
import LiquidModel.Lemmas.C13
import LiquidModel.Lemmas.Res
namespace Liquid.C13
open Liquid Liquid.StrF

/-! ### append / prepend / case / newline_to_br / default -/

/-- `append`, `prepend`: the model's two rows, read off.  Input and argument are taken in their
string form (`render` is `to_kstr`), whatever kind of value they are, and concatenated. -/
theorem C13_append_prepend (u : Uni) (x a : V) :
    apply u .append x [a] = .ok (sV (x.render ++ a.render)) ∧
    apply u .prepend x [a] = .ok (sV (a.render ++ x.render)) := ⟨rfl, rfl⟩

/-- `upcase`, `downcase`, `capitalize`: the model's three rows, read off.  Every character goes
through `char::to_uppercase` / `to_lowercase` (`u.upper`, `u.lower`: one character may become
several), in order; `capitalize` maps the first character only.  The final-sigma rule of
`str::to_lowercase`, which looks at a character's neighbours, is not in the model. -/
theorem C13_case (u : Uni) (x : V) :
    apply u .upcase x [] = .ok (sV (x.render.flatMap u.upper)) ∧
    apply u .downcase x [] = .ok (sV (x.render.flatMap u.lower)) ∧
    apply u .capitalize x [] = .ok (sV (match x.render with | [] => [] | c :: r => u.upper c ++ r)) :=
  ⟨rfl, rfl, rfl⟩

/-- `upcase` and `downcase` distribute over concatenation. -/
theorem C13_case_append (u : Uni) (s t : Str) :
    upcase u (s ++ t) = upcase u s ++ upcase u t ∧ downcase u (s ++ t) = downcase u s ++ downcase u t :=
  ⟨List.flatMap_append, List.flatMap_append⟩

/-- `newline_to_br`: the filter's row, and the three equations that determine `newlineToBr` — it
distributes over concatenation, sends the empty string to itself, and a single character to
`<br />` followed by a newline if it is a newline, to itself otherwise
(`str::replace('\n', "<br />\n")`). -/
theorem C13_newline_to_br (u : Uni) (x : V) :
    apply u .newlineToBr x [] = .ok (sV (newlineToBr x.render)) ∧
    (∀ s t : Str, newlineToBr (s ++ t) = newlineToBr s ++ newlineToBr t) ∧
    newlineToBr [] = [] ∧
    (∀ c, newlineToBr [c] = if c = '\n' then "<br />\n".toList else [c]) := by
  refine ⟨rfl, fun s t => List.flatMap_append, rfl, fun c => ?_⟩
  -- `brNl` stays folded: unfolding it by `simp` or `rw` makes Lean evaluate the string literal to
  -- build the equation lemma
  simp only [newlineToBr, List.flatMap_cons, List.flatMap_nil, List.append_nil, beq_iff_eq]; rfl

/-- `default`: the model's row, read off — the argument when `query_state(State::DefaultValue)`
holds of the input, else the input itself.  Of which values it holds (nil, `false`, the empty
string, array and object, the `State` markers such as `empty` and `blank`) is the definition of
`V.queryState`; the example samples it. -/
theorem C13_default (u : Uni) (x d : V) :
    apply u .default x [d] = .ok (if x.queryState .dflt then d else x) := rfl

example : defaultV (sV []) (sV ['d']) = sV ['d'] ∧ defaultV (sV [' ']) (sV ['d']) = sV [' '] ∧
    defaultV .nil (sV ['d']) = sV ['d'] := ⟨rfl, rfl, rfl⟩

/-! ### strip family -/

/-- **strip = lstrip after rstrip** (and also rstrip after lstrip), on every string. -/
theorem C13_strip (s : Str) :
    trim s = trimStart (trimEnd s) ∧ trim s = trimEnd (trimStart s) :=
  ⟨trimEnd_trimStart_comm s, rfl⟩

/-- The same law at the level of the filters applied to arbitrary values. -/
theorem C13_strip_filters (u : Uni) (x : V) :
    ∃ r, apply u .rstrip x [] = .ok r ∧ apply u .lstrip r [] = apply u .strip x [] :=
  ⟨sV (trimEnd x.render), rfl, congrArg (fun t => Res.ok (sV t)) (C13_strip x.render).1.symm⟩

/-- What the strip filters compute: `lstrip` removes a maximal whitespace prefix, `rstrip` a maximal
whitespace suffix, `strip` both — the removed parts consist of White_Space characters only and the
result neither starts (`lstrip`, `strip`) nor ends (`rstrip`, `strip`) with one. -/
theorem C13_strip_spec (s : Str) :
    (∃ a, s = a ++ trimStart s ∧ a.all isUniWs = true ∧ ∀ c, (trimStart s).head? = some c → isUniWs c = false) ∧
    (∃ b, s = trimEnd s ++ b ∧ b.all isUniWs = true ∧ ∀ c, (trimEnd s).getLast? = some c → isUniWs c = false) ∧
    (∃ a b, s = a ++ trim s ++ b ∧ a.all isUniWs = true ∧ b.all isUniWs = true ∧
      (∀ c, (trim s).head? = some c → isUniWs c = false) ∧
      (∀ c, (trim s).getLast? = some c → isUniWs c = false)) := by
  refine ⟨?_, ?_, ?_⟩
  · obtain ⟨a, h1, h2⟩ := trimStart_append_ws s
    exact ⟨a, h1, h2, trimStart_head_not_ws s⟩
  · obtain ⟨b, h1, h2⟩ := trimEnd_append_ws s
    exact ⟨b, h1, h2, trimEnd_getLast_not_ws s⟩
  · obtain ⟨a, h1, h2⟩ := trimStart_append_ws s
    obtain ⟨b, h3, h4⟩ := trimEnd_append_ws (trimStart s)
    refine ⟨a, b, ?_, h2, h4, ?_, trimEnd_getLast_not_ws _⟩
    · unfold trim; rw [List.append_assoc, ← h3, ← h1]
    · rw [(C13_strip s).1]; exact trimStart_head_not_ws _

/-- Whitespace-only (in particular empty) strings strip to the empty string. -/
theorem C13_strip_blank (s : Str) (h : s.all isUniWs = true) :
    trim s = [] ∧ trimStart s = [] ∧ trimEnd s = [] := by
  refine ⟨?_, trimStart_eq_nil_of_all_ws s h, trimEnd_eq_nil_of_all_ws s h⟩
  unfold trim; rw [trimStart_eq_nil_of_all_ws s h]; rfl

example : trim " \t\na b  ".toList = "a b".toList := by decide

/-- `strip_newlines`: the model's row, read off — the characters of the string form other than
`\n` and `\r`, in order. -/
theorem C13_strip_newlines (u : Uni) (x : V) :
    apply u .stripNewlines x [] = .ok (sV (x.render.filter fun c => c != '\n' && c != '\r')) := rfl

/-! ### split / join -/

/-- **split then join on the same separator is the identity** on strings (for every separator —
the property asks for the non-empty ones; the empty separator splits into characters). -/
theorem C13_split_join (sep s : Str) : joinWith sep (strSplit sep s) = s := by
  by_cases hp : sep = []
  · subst hp
    -- the left side is `strReplace [] [] s`, which puts nothing around every character
    exact (strReplace_empty [] s).trans (by simp)
  · exact joinWith_strSplit_of_ne_nil hp s

/-- The same law through the filters and the value model: `x | split: sep | join: sep` is the
string form of `x`, for every value `x` (an empty input splits into the empty array, which joins to
the empty string). -/
theorem C13_split_join_filters (u : Uni) (x sep : V) :
    ∃ r, apply u .split x [sep] = .ok r ∧ apply u .join r [sep] = .ok (sV x.render) := by
  refine ⟨splitV x sep.render, rfl, ?_⟩
  show joinV (splitV x sep.render) sep.render = _
  unfold splitV
  dsimp only
  split
  · next h => rw [List.isEmpty_iff.mp h]; rfl
  · show Res.ok (sV (joinWith _ ((List.map sV _).map V.render))) = _
    rw [List.map_map, show V.render ∘ sV = id from rfl, List.map_id, C13_split_join]

/-- `split` on a non-empty separator: unfolding equations (leftmost, non-overlapping matches). -/
theorem C13_split_eqns (sep : Str) (hs : sep ≠ []) :
    strSplit sep [] = [[]] ∧
    (∀ s, s ≠ [] → sep <+: s → strSplit sep s = [] :: strSplit sep (s.drop sep.length)) ∧
    (∀ c r, ¬ sep <+: (c :: r) → ∃ p ps, strSplit sep r = p :: ps ∧ strSplit sep (c :: r) = (c :: p) :: ps) :=
  ⟨strSplit_nil hs, fun _ _ => strSplit_hit hs, fun _ _ => strSplit_miss hs⟩

/-- `split` cuts at *every* occurrence it scans over: no piece contains the (non-empty) separator,
and there is always at least one piece. -/
theorem C13_split_pieces (sep s : Str) (hs : sep ≠ []) :
    strSplit sep s ≠ [] ∧ ∀ p ∈ strSplit sep s, ¬ sep <:+: p :=
  ⟨strSplit_ne_nil sep s, strSplit_pieces_no_pat hs s⟩

example : strSplit "aa".toList "aaa".toList = ["".toList, "a".toList] ∧
    strSplit ", ".toList "a, b, c".toList = ["a".toList, "b".toList, "c".toList] ∧
    strSplit [] "ab".toList = [[], ['a'], ['b'], []] := by decide

/-- `join` on an array: the model's two rows, read off — the string forms of the elements joined
by the string form of the argument or, without one, by a single space — and the defining equations
of `joinWith`.  An input that is not an array (an error in `joinV`) is outside this statement. -/
theorem C13_join (u : Uni) (xs : List V) (sep : V) :
    apply u .join (.arr xs) [sep] = .ok (sV (joinWith sep.render (xs.map V.render))) ∧
    apply u .join (.arr xs) [] = .ok (sV (joinWith [' '] (xs.map V.render))) ∧
    (∀ a b : Str, ∀ r : List Str, joinWith sep.render (a :: b :: r) = a ++ sep.render ++ joinWith sep.render (b :: r)) ∧
    (∀ a : Str, joinWith sep.render [a] = a) ∧ joinWith sep.render [] = [] :=
  ⟨rfl, rfl, fun _ _ _ => rfl, fun _ => rfl, rfl⟩

/-! ### replace / remove -/

/-- `replace` for a non-empty search string: scan left to right; at an occurrence emit the
replacement and continue after it (non-overlapping), otherwise copy one character. -/
theorem C13_replace_eqns (pat to : Str) (hp : pat ≠ []) :
    strReplace pat to [] = [] ∧
    (∀ s, pat <+: s → strReplace pat to s = to ++ strReplace pat to (s.drop pat.length)) ∧
    (∀ c r, ¬ pat <+: (c :: r) → strReplace pat to (c :: r) = c :: strReplace pat to r) :=
  ⟨strReplace_nil hp to, fun _ => strReplace_hit hp to, fun _ _ => strReplace_miss hp to⟩

/-- `replace` with an empty search string inserts the replacement at every character boundary
(Rust `str::replace` semantics). -/
theorem C13_replace_empty (to s : Str) : strReplace [] to s = to ++ s.flatMap (fun c => c :: to) :=
  strReplace_empty to s

/-- Replacing a string by itself changes nothing; `remove`, and `replace` with one argument, are
`replace` with the empty string. -/
theorem C13_replace_self_remove (u : Uni) (pat s : Str) (x p : V) :
    strReplace pat pat s = s ∧ apply u .remove x [p] = apply u .replace x [p, sV []] ∧
    apply u .replace x [p] = apply u .replace x [p, sV []] :=
  ⟨C13_split_join pat s, rfl, rfl⟩

/-- `replace_first` / `remove_first`: when the search string occurs, exactly its leftmost
occurrence is replaced (removed); when it does not occur the input is returned unchanged. -/
theorem C13_replace_first (pat to s : Str) :
    (¬ pat <:+: s → replaceFirst pat to s = s ∧ removeFirst pat s = s) ∧
    (pat <:+: s → ∃ a b, s = a ++ pat ++ b ∧ replaceFirst pat to s = a ++ to ++ b ∧ removeFirst pat s = a ++ b ∧
        ∀ a' b', s = a' ++ pat ++ b' → a.length ≤ a'.length) := by
  have h := splitFirst_spec pat s
  unfold replaceFirst removeFirst
  cases hs : splitFirst pat s with
  | none => rw [hs] at h; exact ⟨fun _ => ⟨rfl, rfl⟩, fun hin => absurd hin h⟩
  | some ab =>
    obtain ⟨a, b⟩ := ab
    rw [hs] at h
    exact ⟨fun hn => absurd ⟨a, b, h.1.symm⟩ hn, fun _ => ⟨a, b, h.1, rfl, rfl, h.2⟩⟩

example : strReplace "aa".toList "b".toList "aaa".toList = "ba".toList ∧
    replaceFirst "a".toList "".toList "banana".toList = "bnana".toList := by decide

/-! ### truncate / truncatewords -/

/-- the limit as the code sees it: `length as usize` (a negative limit is a huge one, i.e. "no
limit" — pinned by the repository's own `unit_truncate_negative_length`) -/
abbrev limitOf (n : Int) : Nat := toUsize n

/-- **Truncate bound.**  For every segmentation: the result of `truncate n e` is either the input
unchanged — and then it has at most `n` characters — or a concatenation of at most
`max n |e|` grapheme clusters, each a cluster of the input (in order, from the front) followed by
the clusters of the ellipsis (`|e|` counts clusters). -/
theorem C13_truncate_bound (u : Uni) (hseg : IsSeg u.seg) (n : Nat) (e s : Str) :
    (truncStr u n e s = none ∧ s.length ≤ n) ∨
    (∃ k, n < s.length ∧ truncStr u n e s = some (((u.seg s).take k).flatten ++ e) ∧
       k + (u.seg e).length ≤ max n (u.seg e).length ∧
       ((u.seg s).take k ++ u.seg e).flatten = ((u.seg s).take k).flatten ++ e) := by
  unfold truncStr
  by_cases h : n < s.length
  · refine .inr ⟨n - e.length, h, by simp [h], ?_, by simp [(hseg e).1]⟩
    have := hseg.length_le e
    omega
  · exact .inl ⟨by simp [h], by omega⟩

/-- Corollary in characters when every cluster of the input is a single character (e.g. ASCII,
precomposed letters): the result has at most `max n |e|` characters. -/
theorem C13_truncate_bound_chars (u : Uni) (n : Nat) (e s r : Str)
    (h1 : ∀ g ∈ u.seg s, g.length ≤ 1) (h : truncStr u n e s = some r) :
    r.length ≤ max n e.length := by
  obtain ⟨_, rfl⟩ := truncStr_some h
  have := (flatten_length_bounds 1 ((u.seg s).take (n - e.length))).2 fun g hg => h1 g (List.mem_of_mem_take hg)
  simp only [List.length_append, List.length_take] at this ⊢
  omega

/-- the trivial segmentation: every character its own cluster (exact for ASCII / precomposed text) -/
def charSeg (s : Str) : List Str := s.map fun c => [c]

/-- The bound measured on the result itself: when concatenation never increases the number of
clusters beyond the sum and a prefix of whole clusters re-segments into no more clusters (both
hold for extended grapheme clusters), the truncated string has at most `max n |e|` grapheme
clusters.  The correspondence run checks this bound itself on every case, with the
implementation's own segmentation of its output. -/
theorem C13_truncate_bound_graphemes (u : Uni) (hseg : IsSeg u.seg)
    (hsub : ∀ a b, (u.seg (a ++ b)).length ≤ (u.seg a).length + (u.seg b).length)
    (hpre : ∀ s k, (u.seg ((u.seg s).take k).flatten).length ≤ k)
    (n : Nat) (e s r : Str) (h : truncStr u n e s = some r) :
    (u.seg r).length ≤ max n (u.seg e).length := by
  obtain ⟨_, rfl⟩ := truncStr_some h
  have h1 := hsub ((u.seg s).take (n - e.length)).flatten e
  have h2 := hpre s (n - e.length)
  have h3 := hseg.length_le e
  omega

example : IsSeg charSeg ∧
    (∀ a b, (charSeg (a ++ b)).length ≤ (charSeg a).length + (charSeg b).length) ∧
    (∀ s k, (charSeg ((charSeg s).take k).flatten).length ≤ k) := by
  refine ⟨fun s => ⟨?_, ?_⟩, ?_, ?_⟩
  · induction s with
    | nil => rfl
    | cons c r ih => simpa [charSeg] using ih
  · intro g hg; simp [charSeg] at hg; obtain ⟨c, _, rfl⟩ := hg; simp
  · intro a b; simp [charSeg]
  · intro s k
    have := (flatten_length_bounds 1 ((charSeg s).take k)).2 fun g hg => by
      obtain ⟨c, _, rfl⟩ := List.mem_map.mp (List.mem_of_mem_take hg); exact Nat.le_refl _
    simp only [charSeg, List.length_map, List.length_take] at this ⊢
    omega

/-- Truncation cuts a prefix: the result is either the input, as the very same value, or a prefix
of its string form followed by the ellipsis.  (When it is which, and that the prefix consists of
whole clusters, is `C13_truncate_bound`.) -/
theorem C13_truncate_prefix (u : Uni) (hseg : IsSeg u.seg) (x : V) (n : Int) (e : Str) :
    truncateV u x n e = x ∨ ∃ p, p <+: x.render ∧ truncateV u x n e = sV (p ++ e) := by
  unfold truncateV
  split
  · next r hr =>
    obtain ⟨_, rfl⟩ := truncStr_some hr
    refine .inr ⟨_, ⟨((u.seg x.render).drop (toUsize n - e.length)).flatten, ?_⟩, rfl⟩
    rw [← List.flatten_append, List.take_append_drop, (hseg x.render).1]
  · exact .inl rfl

/-- `'ééé' | truncate: 4` is `ééé`: three characters, though six bytes -/
example (u : Uni) : apply u .truncate (sV "ééé".toList) [.sc (.int 4)] = .ok (sV "ééé".toList) := rfl

/-- The code at the pinned commit compared byte lengths (D13): `'ééé' | truncate: 4` gave `é...`,
four characters cut down although the limit was not exceeded. -/
theorem C13_truncate_old_counterexample :
    truncStrOld { upper := fun c => [c], lower := fun c => [c], seg := segSimple } 4 "...".toList "ééé".toList
      = some "é...".toList := by decide

/-- `truncatewords`: words are the pieces between single spaces; with more than `n` of them the
first `n` are kept, re-joined by single spaces, and the ellipsis is appended; otherwise the input
is returned as the very same value. -/
theorem C13_truncatewords (x : V) (n : Int) (e : Str) :
    let ws := strSplit [' '] x.render
    (ws.length ≤ limitOf n → truncateWordsV x n e = x) ∧
    (limitOf n < ws.length → truncateWordsV x n e = sV (joinWith [' '] (ws.take (limitOf n)) ++ e)) ∧
    joinWith [' '] ws = x.render := by
  refine ⟨?_, ?_, C13_split_join _ _⟩
  · intro h
    simp only [truncateWordsV, truncWords]
    rw [if_neg (Nat.not_lt.mpr h)]
  · intro h
    simp only [truncateWordsV, truncWords]
    rw [if_pos h]

/-! ### slice -/

/-- **Slice** on strings counts in characters: for every offset and every length ≥ 1 the result is
`sliceSpec` — `drop offset` (from the end when negative, empty when out of range) then `take length`
— hence a contiguous piece of the input of at most the requested length.  No panic for any `i64`
arguments (D9 repaired). -/
theorem C13_slice_infix (off len : Int) (s : Str) (ho : inI64 off = true) (hl : inI64 len = true)
    (h1 : 1 ≤ len) (hs : s.length < 2^63) :
    sliceStr off len s = .ok (sliceSpec off len s) ∧
    sliceSpec off len s <:+: s ∧ (sliceSpec off len s).length ≤ len.toNat := by
  obtain ⟨o, l, hc, h⟩ := canonSlice_list s off len ho hl h1 hs
  refine ⟨?_, sliceSpec_infix off len s, sliceSpec_length off len s⟩
  simp only [sliceStr, hc, h]

/-- The same for arrays (`slice` shares `canonicalize_slice`). -/
theorem C13_slice_array (off len : Int) (xs : List V) (ho : inI64 off = true) (hl : inI64 len = true)
    (h1 : 1 ≤ len) (hs : xs.length < 2^63) :
    sliceArr off len xs = .ok (sliceSpec off len xs) := by
  obtain ⟨o, l, hc, h⟩ := canonSlice_list xs off len ho hl h1 hs
  simp only [sliceArr, hc, h]

/-- Filter level: a length below 1 is the documented error; otherwise the result is the slice of
the array, or of the string form of anything else. -/
theorem C13_slice_filter (u : Uni) (x : V) (off len : Int) (ho : inI64 off = true) (hl : inI64 len = true)
    (hs : x.render.length < 2^63) (hx : ∀ xs, x = .arr xs → xs.length < 2^63) :
    apply u .slice x [.sc (.int off), .sc (.int len)] =
      if len < 1 then .err else
      match x with
      | .arr xs => .ok (.arr (sliceSpec off len xs))
      | v => .ok (sV (sliceSpec off len v.render)) := by
  show sliceV x off len = _
  unfold sliceV
  split
  · rfl
  · next h =>
    have h1 : 1 ≤ len := Int.not_lt.mp h
    cases x with
    | arr xs => simp only [C13_slice_array off len xs ho hl h1 (hx xs rfl)]; rfl
    | _ => simp only [(C13_slice_infix off len _ ho hl h1 hs).1]; rfl

/-- `'ééé' | slice: -1` is `é`: the offset counts characters from the end -/
example : sliceStr (-1) 1 "ééé".toList = .ok "é".toList := by rfl

/-- Pinned commit, D15: negative offsets were resolved against the *byte* length, so
`'ééé' | slice: -1` was empty (offset 5 of a 3-character string). -/
theorem C13_slice_old_counterexample_bytes : sliceStrOld (-1) 1 "ééé".toList = .ok [] := by rfl

/-- Pinned commit, D9: `slice: 1, 9223372036854775807` overflowed `isize`. -/
theorem C13_slice_old_counterexample_overflow :
    (sliceStrOld 1 9223372036854775807 "abc".toList).isPanic = true ∧
    sliceStr 1 9223372036854775807 "abc".toList = .ok "bc".toList := ⟨by rfl, by rfl⟩

/-! ### size / first / last -/

/-- **size** of a scalar is the number of characters of its string form (never bytes); of an array
or object the number of elements; of anything else 0. -/
theorem C13_size_chars (u : Uni) (x : V) :
    apply u .size x [] = .ok (.sc (.int (match x with
      | .sc s => (s.render.length : Int)
      | .arr xs => xs.length
      | .obj kvs => kvs.length
      | _ => 0))) := by
  cases x <;> rfl

example (u : Uni) : apply u .size (sV "ééé".toList) [] = .ok (.sc (.int 3)) := rfl

/-- Pinned commit, D14: `'ééé' | size` was 6. -/
theorem C13_size_old_counterexample : sizeVOld (sV "ééé".toList) = 6 := by decide

/-- **first / last** of a scalar are its first / last character as a string (empty string when
there is none); of an array its first / last element (nil when empty); of nil they are an error. -/
theorem C13_first_last (u : Uni) :
    (∀ s : Sc, apply u .first (.sc s) [] = .ok (sV (s.render.take 1)) ∧
               apply u .last (.sc s) [] = .ok (sV (s.render.drop (s.render.length - 1)))) ∧
    (∀ xs : List V, apply u .first (.arr xs) [] = .ok (xs.head?.getD .nil) ∧
                    apply u .last (.arr xs) [] = .ok (xs.getLast?.getD .nil)) ∧
    apply u .first .nil [] = .err ∧ apply u .last .nil [] = .err := by
  refine ⟨?_, ?_, rfl, rfl⟩
  · intro s
    refine ⟨?_, congrArg (fun t => Res.ok (sV t)) (lastChar_eq_drop s.render)⟩
    show firstV (.sc s) = _
    rw [firstV]
    cases s.render <;> rfl
  · exact fun xs => ⟨by cases xs <;> rfl, rfl⟩

example (u : Uni) : apply u .first (sV "é1".toList) [] = .ok (sV "é".toList) ∧
    apply u .last (sV "1é".toList) [] = .ok (sV "é".toList) := ⟨rfl, rfl⟩

/-! ### argument conversion, no panic -/

/-- When the conversion of an integer parameter fails (`intArg`: the argument is neither an integer
nor a string that parses as an `i64`), `truncate`, `truncatewords` and `slice`, each called with
that one argument, return an error: no panic, no silent default. -/
theorem C13_int_args (u : Uni) (x a : V) (h : StrF.intArg a = .err) :
    apply u .truncate x [a] = .err ∧ apply u .truncatewords x [a] = .err ∧ apply u .slice x [a] = .err := by
  -- each of the three rows begins with `(intArg a).bind`
  have row : ∀ k : Int → Res V, (StrF.intArg a).bind k = .err := fun k => by rw [h]; rfl
  exact ⟨row _, row _, row _⟩

/-- **No panic.**  No string filter panics, for any input value and any arguments whose integers
are `i64` values (strings and arrays shorter than `isize::MAX`): the `isize` arithmetic of
`canonicalize_slice` — the only panic sites of these filters — stays in range (D9 repaired). -/
theorem C13_no_panic (u : Uni) (f : Fn) (x : V) (args : List V)
    (hargs : ∀ i, V.sc (.int i) ∈ args → inI64 i = true)
    (hs : x.render.length < 2^63) (hx : ∀ xs, x = .arr xs → xs.length < 2^63) :
    (apply u f x args).isPanic = false := by
  have hint : ∀ a i, a ∈ args → StrF.intArg a = .ok i → inI64 i = true := fun a i ha h =>
    (intArg_ok h).elim (fun e => hargs i (e ▸ ha)) id
  -- `sliceV x i j` is the row of `C13_slice_filter`, which says what it returns
  have hslice : ∀ i j, inI64 i = true → inI64 j = true → (sliceV x i j).isPanic = false := by
    intro i j hi hj
    rw [show sliceV x i j = apply u .slice x [.sc (.int i), .sc (.int j)] from rfl,
      C13_slice_filter u x i j hi hj hs hx]
    split
    · rfl
    · split <;> rfl
  fun_cases apply u f x args
  -- one goal per row of the table.  The alternatives, in order: a row `.ok _`, and the last row
  -- `.err`; the four rows `(intArg n).bind fun n => .ok _` of `truncate` and `truncatewords` with a
  -- limit; `join`, `first`, `last`, whose functions return `ok` or `err` by the kind of the input;
  -- the two rows of `slice`, left for below
  all_goals first
    | rfl
    | exact Res.bind_not_panic (intArg_not_panic _) fun _ _ => rfl
    | (unfold joinV; split <;> rfl)
    | (unfold firstV; split <;> rfl)
    | (unfold lastV; split <;> rfl)
    | skip
  · next o =>
    exact Res.bind_not_panic (intArg_not_panic o) fun i ho =>
      hslice i 1 (hint o i (by simp) ho) (by decide)
  · next o l =>
    exact Res.bind_not_panic (intArg_not_panic o) fun i ho => Res.bind_not_panic (intArg_not_panic l) fun j hl =>
      hslice i j (hint o i (by simp) ho) (hint l j (by simp) hl)

/-! ### chains -/

/-- **A filter chain is the left-to-right composition of its filters**: the result of
`e | f₁ … | fₙ | g` is `g` applied to the result of `e | f₁ … | fₙ`, errors and panics of an earlier
stage propagate and later filters do not run.  (`evalChain` is the interpreter's
`FilterChain::evaluate`.) -/
theorem C13_chain (env : Env) (st : Stack) (e : Expr) (fs : List FCall) (g : FCall) :
    evalChain env st e [] = e.eval st ∧
    evalChain env st e (fs ++ [g]) =
      (evalChain env st e fs).bind (fun acc =>
        (evalArgs st g.args).bind fun args =>
          match env.filters g.name with
          | some fn => fn acc args
          | none => .err) := by
  refine ⟨bind_pure (e.eval st), ?_⟩
  unfold evalChain
  simp only [List.foldlM_append, List.foldlM_cons, List.foldlM_nil, bind_pure]
  exact (bind_assoc _ _ _).symm

/-- The same for the value-level chain of string filters, as an explicit recursion from the left:
the first filter is applied to the entry value, the rest of the chain to its result. -/
theorem C13_chain_compose (u : Uni) (v : V) (f : Fn) (args : List V) (fs gs : List (Fn × List V)) :
    chain u v [] = .ok v ∧
    chain u v ((f, args) :: fs) = (apply u f v args).bind (fun v' => chain u v' fs) ∧
    chain u v (fs ++ gs) = (chain u v fs).bind (fun v' => chain u v' gs) := by
  refine ⟨rfl, ?_, ?_⟩
  · simp only [chain]
    cases apply u f v args <;> rfl
  · induction fs generalizing v with
    | nil => rfl
    | cons h t ih =>
      obtain ⟨f', a'⟩ := h
      simp only [List.cons_append, chain]
      cases apply u f' v a' with
      | ok v' => exact ih v'
      | _ => rfl

/-- The interpreter's chain over literal arguments with the string-filter table *is* the
value-level chain: what a template `{{ x | f₁: a… | f₂: b… }}` computes is `chain`. -/
theorem C13_chain_table (u : Uni) (st : Stack) (v : V) (fs : List (Fn × String × List V))
    (hn : ∀ t ∈ fs, Fn.ofName t.2.1 = some t.1) :
    evalChain { filters := table u } st (.lit v)
        (fs.map fun t => { name := t.2.1.toList, args := t.2.2.map Expr.lit }) =
      chain u v (fs.map fun t => (t.1, t.2.2)) := by
  have hargs : ∀ as : List V, evalArgs st (as.map Expr.lit) = .ok as := by
    intro as
    induction as with
    | nil => rfl
    | cons a r ih => simp only [List.map_cons, evalArgs, Expr.eval, bind, Res.bind, ih, pure]
  simp only [evalChain, Expr.eval, bind, Res.bind]
  induction fs generalizing v with
  | nil => rfl
  | cons t r ih =>
    obtain ⟨h1, hr⟩ := List.forall_mem_cons.mp hn
    -- one step of the fold: the literal arguments evaluate to themselves, the table finds `t.1`
    -- under its name, and both sides go on from `apply u t.1 v t.2.2`
    simp only [List.map_cons, List.foldlM, bind, hargs, Res.bind, table, String.ofList_toList, h1, Option.map_some, chain]
    cases apply u t.1 v t.2.2 with
    | ok v' => exact ih v' hr
    | _ => rfl

example : Fn.ofName "strip_newlines" = some .stripNewlines := by decide

/-- The reference implementations of `Spec/C13.lean`, which judge the implementation in the
correspondence run, compute exactly the model's functions: a disagreement between implementation
and model is a disagreement with the specification. -/
theorem C13_reference_agrees :
    (∀ s, C13S.refLstrip s = trimStart s) ∧ (∀ s, C13S.refRstrip s = trimEnd s) ∧
    (∀ s, C13S.refStrip s = trim s) ∧
    (∀ sep xs, C13S.refJoin sep xs = joinWith sep xs) ∧
    (∀ pat to s, C13S.refReplace pat to s = strReplace pat to s) ∧
    (∀ pat s, C13S.refSplit pat s = strSplit pat s) ∧
    (∀ pat to s, C13S.refReplaceFirst pat to s = replaceFirst pat to s) ∧
    (∀ pat s, C13S.refReplaceFirst pat [] s = removeFirst pat s) ∧
    (∀ s, C13S.refWords s = strSplit [' '] s) ∧
    (∀ (off len : Int) (s : Str), C13S.refSlice off len s = sliceSpec off len s) ∧
    (∀ (off len : Int) (xs : List V), C13S.refSlice off len xs = sliceSpec off len xs) := by
  have refRstrip_eq : ∀ s, C13S.refRstrip s = trimEnd s := fun s => by
    rw [trimEnd_eq_reverse, trimStart_eq_dropWhile]; rfl
  refine ⟨fun s => (trimStart_eq_dropWhile s).symm, refRstrip_eq, ?_, refJoin_eq, refReplace_eq, refSplit_eq,
    refReplaceFirst_eq, ?_, refWords_eq, refSlice_eq, refSlice_eq⟩
  · intro s
    unfold C13S.refStrip trim
    rw [refRstrip_eq]
    unfold C13S.refLstrip
    rw [trimStart_eq_dropWhile]
  · intro pat s
    rw [refReplaceFirst_eq, removeFirst_eq_replaceFirst]

end Liquid.C13
