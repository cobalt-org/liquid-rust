/-
  C06 — conditionals render exactly one branch, chosen by Liquid truth and comparison.
  Model: `Model/Ast.lean` (`Cond.eval`, `cmpOpEval`, `containsCheck`), `Model/Render.lean`
  (`.cond`, `.case_` arms of `renderN`), `Model/CondParse.lean` (`parse_condition`).
-/
import LiquidModel.Lemmas.Monad
import LiquidModel.Model.CondParse
import LiquidModel.Lemmas.CondGroup
namespace Liquid.C06

/-! ### exactly one branch -/

/-- **if / unless.** When the condition evaluates to `b`, a conditional with mode `m`
(`true` = if, `false` = unless) renders its first branch iff `b = m`, otherwise its else branch if
there is one, otherwise nothing at all (state and sink untouched). Never both, never neither. -/
theorem C06_one_branch (fuel : Nat) (env : Env) (c : Cond) (m b : Bool) (thn : Tmpl) (els : Option Tmpl)
    (rt : Rt) (w : W) (hc : c.eval rt.layers = .ok b) :
    renderN (fuel + 1) env (.cond c m thn els) rt w =
      if b = m then renderList (renderN fuel env) thn rt w
      else match els with
        | some t => renderList (renderN fuel env) t rt w
        | none => (.ok (), rt, w) := by
  simp only [renderN, M.bind'_getSt, hc, M.bind'_lift_ok]
  by_cases h : b = m
  · simp [h]
  · cases els <;> simp [h]

/-- A condition that fails to evaluate makes the whole block fail; nothing is rendered. -/
theorem C06_condition_error (fuel : Nat) (env : Env) (c : Cond) (m : Bool) (thn : Tmpl) (els : Option Tmpl)
    (rt : Rt) (w : W) (hc : c.eval rt.layers = .err) :
    renderN (fuel + 1) env (.cond c m thn els) rt w = (.err, rt, w) := by
  simp only [renderN, M.bind'_getSt, hc, M.bind'_lift_err]

/-- **unless is the negation of if**: `unless c` behaves exactly like `if` on a condition with the
opposite truth value. -/
theorem C06_unless (fuel : Nat) (env : Env) (c c' : Cond) (b : Bool) (thn : Tmpl) (els : Option Tmpl)
    (rt : Rt) (w : W) (hc : c.eval rt.layers = .ok b) (hc' : c'.eval rt.layers = .ok (!b)) :
    renderN (fuel + 1) env (.cond c false thn els) rt w =
    renderN (fuel + 1) env (.cond c' true thn els) rt w := by
  rw [C06_one_branch fuel env c false b thn els rt w hc, C06_one_branch fuel env c' true (!b) thn els rt w hc']
  cases b <;> simp

/-- **elsif chains.**  `parse_if` makes the rest of an `elsif` chain the single element of the else
branch (if_block.rs); the statement takes that shape as given, with any node as `rest`, and says
nothing of a parser.  When `c1` is false the result is exactly that of `rest`, when it is true
`rest` is not even evaluated. -/
theorem C06_elsif (fuel : Nat) (env : Env) (c1 : Cond) (b : Bool) (thn : Tmpl) (rest : Node) (rt : Rt) (w : W)
    (h1 : c1.eval rt.layers = .ok b) :
    renderN (fuel + 1) env (.cond c1 true thn (some [rest])) rt w =
      if b then renderList (renderN fuel env) thn rt w
      else renderList (renderN fuel env) [rest] rt w := by
  rw [C06_one_branch fuel env c1 true b thn (some [rest]) rt w h1]

/-- **case / when.** The block renders the body of the first `when` arm one of whose values
equals the target, otherwise the else branch, otherwise nothing. -/
theorem C06_case (fuel : Nat) (env : Env) (target : Expr) (value : V) (arms : List (List Expr × Tmpl))
    (els : Option Tmpl) (rt : Rt) (w : W) (pick : Option Tmpl)
    (ht : target.eval rt.layers = .ok value) (hp : casePick rt.layers value arms = .ok pick) :
    renderN (fuel + 1) env (.case_ target arms els) rt w =
      match pick with
      | some body => renderList (renderN fuel env) body rt w
      | none => (match els with
          | some t => renderList (renderN fuel env) t rt w
          | none => (.ok (), rt, w)) := by
  simp only [renderN, M.bind'_getSt, ht, hp, M.bind'_lift_ok]
  cases pick with
  | some b => rfl
  | none => cases els <;> rfl

/-- what "matches" means: comma and `or` lists are disjunctions, tried left to right -/
theorem C06_when_disjunction (st : Stack) (value v : V) (a : Expr) (as : List Expr)
    (ha : a.eval st = .ok v) :
    anyEqArgs st value (a :: as) = if valueEq v value then .ok true else anyEqArgs st value as := by
  simp [anyEqArgs, ha]

/-- the first matching arm wins, later (duplicate or overlapping) arms are not considered -/
theorem C06_case_first (st : Stack) (value : V) (args : List Expr) (body : Tmpl)
    (r : List (List Expr × Tmpl)) :
    (anyEqArgs st value args = .ok true → casePick st value ((args, body) :: r) = .ok (some body)) ∧
    (anyEqArgs st value args = .ok false → casePick st value ((args, body) :: r) = casePick st value r) := by
  constructor <;> intro h <;> simp [casePick, h]

/-! ### truth -/

/-- **Truthiness.** A bare value is true unless it is nil or `false` (or one of the `empty`/`blank`
marker literals, which the code also treats as falsy). `0`, `""`, `[]` and `{}` are true. -/
theorem C06_truthy (v : V) :
    v.queryState .truthy = match v with
      | .nil => false
      | .sc (.bool b) => b
      | .st _ => false
      | _ => true := by
  cases v with
  | nil => rfl
  | st s => rfl
  | sc s => cases s <;> rfl
  | arr xs => rfl
  | obj kvs => rfl

/-- An undefined name counts as nil: the existence condition on a name no layer defines is false
(and is not an error). -/
theorem C06_undefined_is_false (st : Stack) (x : Str) (h : st.tryGet [.str x] = none) :
    Cond.eval st (.exist (.var x [])) = .ok false := by
  simp [Cond.eval, Expr.tryEval, tryEvalIdx, h, V.queryState]

theorem C06_zero_empty_true :
    (V.sc (.int 0)).queryState .truthy = true ∧ (V.sc (.str [])).queryState .truthy = true ∧
    (V.arr []).queryState .truthy = true ∧ (V.obj []).queryState .truthy = true := by
  refine ⟨rfl, rfl, rfl, rfl⟩

/-! ### operators -/

/-- **Operators agree with the value model**: each comparison operator is the stated function of
`valueEq` / `valueCmp`; `<=` and `>=` hold exactly when the values are ordered `<`/`>` or ordered
equal. -/
theorem C06_ops (a b : V) :
    cmpOpEval .eq a b = .ok (valueEq a b) ∧
    cmpOpEval .ne a b = .ok (!valueEq a b) ∧
    cmpOpEval .lt a b = .ok (valueCmp a b == some .lt) ∧
    cmpOpEval .gt a b = .ok (valueCmp a b == some .gt) ∧
    cmpOpEval .le a b = .ok (valueCmp a b == some .lt || valueCmp a b == some .eq) ∧
    cmpOpEval .ge a b = .ok (valueCmp a b == some .gt || valueCmp a b == some .eq) := by
  refine ⟨rfl, rfl, rfl, rfl, ?_, ?_⟩
  · simp only [cmpOpEval, vLe]
    cases valueCmp a b with
    | none => rfl
    | some o => cases o <;> rfl
  · simp only [cmpOpEval, vGe]
    cases valueCmp a b with
    | none => rfl
    | some o => cases o <;> rfl

/-- `contains`: substring on scalars (through their string form), key membership on objects,
element equality on arrays, an error on nil. -/
theorem C06_contains (a b : V) :
    containsCheck a b = match a with
      | .sc s => .ok (strContains s.render b.render)
      | .obj kvs => .ok (match b with | .sc k => objContains kvs k.render | _ => false)
      | .arr xs => .ok (xs.any fun e => valueEq e b)
      | _ => .err := by
  cases a <;> simp [containsCheck] <;> cases b <;> rfl

/-- Comparisons against the `empty` / `blank` literals ask the other value's state (stated for
scalars and for the marker literals themselves). -/
theorem C06_empty_blank (v : V) (s : St) (hv : ∀ xs, v ≠ .arr xs) (ho : ∀ kvs, v ≠ .obj kvs) (hn : v ≠ .nil) :
    valueEq v (.st s) = (match v with | .st t => (V.st s).queryState t | _ => v.queryState s) := by
  cases v with
  | nil => exact absurd rfl hn
  | arr xs => exact absurd rfl (hv xs)
  | obj kvs => exact absurd rfl (ho kvs)
  | st t => simp [valueEq, valueEqFlat, V.isNil]
  | sc x => simp [valueEq, valueEqFlat, V.isNil]

/-! ### and / or grouping -/

/-- **Precedence.** `x or y and z` groups as `x or (y and z)`, and `x and y or z` as
`(x and y) or z`, for all operands. -/
theorem C06_precedence (x y z : Expr) :
    parseCondition [.val x, .or_, .val y, .and_, .val z]
      = some (.or (.exist x) (.and (.exist y) (.exist z))) ∧
    parseCondition [.val x, .and_, .val y, .or_, .val z]
      = some (.or (.and (.exist x) (.exist y)) (.exist z)) := by
  constructor <;> rfl

/-- homogeneous chains associate to the left -/
theorem C06_chains (a b c d : Expr) :
    parseCondition [.val a, .and_, .val b, .and_, .val c, .and_, .val d]
      = some (.and (.and (.and (.exist a) (.exist b)) (.exist c)) (.exist d)) ∧
    parseCondition [.val a, .or_, .val b, .or_, .val c, .or_, .val d]
      = some (.or (.or (.or (.exist a) (.exist b)) (.exist c)) (.exist d)) := by
  constructor <;> rfl

/-- binary atoms bind tighter than both connectives -/
theorem C06_atoms (l r x : Expr) (o : CmpOp) :
    parseCondition [.val l, .cmp o, .val r, .or_, .val x] = some (.or (.bin l o r) (.exist x)) ∧
    parseCondition [.val x, .and_, .val l, .cmp o, .val r] = some (.and (.exist x) (.bin l o r)) := by
  constructor <;> rfl

/-- the truth table of the grouping: `x or (y and z)` -/
theorem C06_or_and_truth (st : Stack) (x y z : Cond) (bx b_y bz : Bool)
    (hx : x.eval st = .ok bx) (hy : y.eval st = .ok b_y) (hz : z.eval st = .ok bz) :
    Cond.eval st (.or x (.and y z)) = .ok (bx || (b_y && bz)) := by
  cases bx <;> cases b_y <;> cases bz <;> simp [Cond.eval, hx, hy, hz, bind, Res.bind, pure]

/-- malformed conditions are parse errors, not something silently true or false -/
theorem C06_malformed :
    parseCondition [] = none ∧ parseCondition [.and_] = none ∧
    (∀ x, parseCondition [.val x, .junk] = none) ∧
    (∀ x o, parseCondition [.val x, .cmp o] = none) ∧
    (∀ x, parseCondition [.val x, .or_] = none) := by
  refine ⟨rfl, rfl, fun _ => rfl, fun _ _ => rfl, fun _ => rfl⟩

/-! ### the general grouping theorem (any number of atoms, any mixture of `and`/`or`) -/

open Liquid.CondGroup in
/-- **Grouping, in general.** Any flat sequence `a11 and a12 … or a21 and … or …` — any number of
groups, any number of atoms per group, atoms being bare values or comparisons — parses to the
left-nested disjunction of the left-nested conjunctions of its atoms: `and` binds tighter than
`or`, homogeneous chains associate to the left. -/
theorem C06_grouping (g : Group) (gs : List Group) :
    parseCondition (disjToks g gs) = some (disjTree g gs) := by
  have hl := conjToks_length g
  have hlen : (disjToks g gs).length = (conjToks g).length + (orTail gs).length := by
    simp [disjToks]
  have : parseConj ((disjToks g gs).length + 1) (disjToks g gs) = some (conjTree g, orTail gs) :=
    parseConj_toks g _ _ (by omega) (orSep_orTail gs)
  simp only [parseCondition, this]
  exact disjLoop_orTail gs _ _ (by omega)

open Liquid.CondGroup in
/-- **No other reading.** Whatever token sequence `parse_condition` accepts *is* such a sequence and
its parse is the grouped tree; everything else is a parse error. -/
theorem C06_grouping_unique (toks : List CTok) (c : Cond) (h : parseCondition toks = some c) :
    ∃ (g : Group) (gs : List Group), toks = disjToks g gs ∧ c = disjTree g gs := by
  unfold parseCondition at h
  simp only at h
  split at h
  · next hp =>
    obtain ⟨g, ht, hc⟩ := parseConj_shape hp
    obtain ⟨gs, hgs, hcs⟩ := disjLoop_shape _ _ _ _ h
    exact ⟨g, gs, by simp [disjToks, ht, hgs], by simp [disjTree, hcs, hc]⟩
  · cases h

open Liquid.CondGroup in
/-- **Truth of a grouped condition.** When its atoms evaluate (to `tv`), the parsed condition is
true exactly when some `or`-group has all its atoms true. -/
theorem C06_grouping_truth (st : Stack) (tv : Atom → Bool) (g : Group) (gs : List Group)
    (h : ∀ x ∈ g :: gs, ∀ b ∈ x.1 :: x.2, b.cond.eval st = .ok (tv b)) :
    ∃ c, parseCondition (disjToks g gs) = some c ∧
      c.eval st = .ok ((g :: gs).any fun x => (x.1 :: x.2).all tv) :=
  ⟨_, C06_grouping g gs, eval_disjTree st tv g gs h⟩

open Liquid.CondGroup in
/-- non-vacuity: `x or y and z == w and v` is an instance -/
example (x y z w v : Expr) :
    disjToks (.ex x, []) [(.ex y, [.bin z .eq w, .ex v])]
      = [.val x, .or_, .val y, .and_, .val z, .cmp .eq, .val w, .and_, .val v] := rfl

/-- **The first operand that decides a condition decides it** — whatever the other operand is,
even one that would raise: `false and r` is false and `true or r` is true for every `r`; an operand
is evaluated only when the ones before it left the outcome open (and then its error is the
condition's error). -/
theorem C06_short_circuit (st : Stack) (l r : Cond) :
    (l.eval st = .ok false → (Cond.and l r).eval st = .ok false) ∧
    (l.eval st = .ok true → (Cond.or l r).eval st = .ok true) ∧
    (l.eval st = .ok true → (Cond.and l r).eval st = r.eval st) ∧
    (l.eval st = .ok false → (Cond.or l r).eval st = r.eval st) ∧
    (l.eval st = .err → (Cond.and l r).eval st = .err ∧ (Cond.or l r).eval st = .err) := by
  refine ⟨?_, ?_, ?_, ?_, ?_⟩ <;> intro h <;> simp [Cond.eval, h, bind, Res.bind, pure]

/-- the second clause of `C06_short_circuit` at the literal `true` and an arbitrary `r`; that the
literal evaluates to true is the hypothesis `h` -/
example (st : Stack) (r : Cond) (h : (Cond.exist (.lit (.sc (.bool true)))).eval st = .ok true) :
    (Cond.or (.exist (.lit (.sc (.bool true)))) r).eval st = .ok true :=
  (C06_short_circuit st _ r).2.1 h

end Liquid.C06
