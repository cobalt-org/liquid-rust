/-
  C08 — include shares the caller's scope; render isolates the partial.
  Model: the `.include_` / `.render_` arms of `renderN`, `renderForStep`, `lookupPartial(R)`;
  whole-interpreter invariants `renderT_isolated` (`Lemmas/Isolate.lean`) and the frame discipline.
-/
import LiquidModel.Lemmas.Isolate
import LiquidModel.Lemmas.Scope
import LiquidModel.Props.C04
import LiquidModel.Lemmas.NonInterf
namespace Liquid.C08

/-! ### render: isolation -/

/-- what the caller can observe of a computation: only counters may have changed -/
def OnlyCounters {α} (m : M α) : Prop :=
  ∀ rt w, eqModIndex rt.layers (m rt w).2.1.layers ∧ (m rt w).2.1.core = rt.core

namespace OnlyCounters

theorem pure {α} (a : α) : OnlyCounters (Pure.pure a : M α) :=
  fun _ _ => ⟨eqModIndex_refl _, rfl⟩

theorem lift {α} (r : Res α) : OnlyCounters (M.lift r) :=
  fun _ _ => ⟨eqModIndex_refl _, rfl⟩

theorem getSt : OnlyCounters M.getSt := fun _ _ => ⟨eqModIndex_refl _, rfl⟩

theorem bind {α β} {m : M α} {f : α → M β} (hm : OnlyCounters m) (hf : ∀ a, OnlyCounters (f a)) :
    OnlyCounters (m >>= f) :=
  M.bind_ends (R := fun rt rt' => eqModIndex rt.layers rt'.layers ∧ rt'.core = rt.core)
    (fun _ _ _ h1 h2 => ⟨eqModIndex_trans _ _ _ h1.1 h2.1, h2.2.trans h1.2⟩) hm hf

theorem inSandbox {α} (root : Obj) {m : M α} (hm : Pres isoRel m) :
    OnlyCounters (M.inFrames [.global [], .sandbox root {}] m) :=
  fun rt w => isoR_sandbox (hm { rt with layers := .global [] :: .sandbox root {} :: rt.layers } w)

theorem loopItems {step : V → Nat → M (Option Intr)} (hs : ∀ v i, OnlyCounters (step v i)) (items : List V) (i : Nat) :
    OnlyCounters (loopItems step items i) :=
  loopItems_rel (R := fun m _ => OnlyCounters m) (s2 := step) pure bind hs items i

end OnlyCounters

/-- **render isolates the partial.** After `{% render … %}` in any of its forms (plain,
`with … as`, `for … as`), whatever the partial did — assign, capture, break, continue, cycle,
ifchanged, nested includes and renders, errors — the caller's frames are exactly those from
before, except that shared counters may have been incremented, and the caller's registers
(pending interrupt, cycle positions, ifchanged memory) are untouched. -/
theorem C08_render_isolated (fuel : Nat) (env : Env) (name : Expr) (form : RForm) (args : List (Str × Expr)) :
    OnlyCounters (renderN (fuel + 1) env (.render_ name form args)) := by
  have hbody : ∀ t, Pres isoRel (renderT fuel env t) := renderT_isolated env fuel
  rw [renderN]
  refine OnlyCounters.bind OnlyCounters.getSt (fun st => OnlyCounters.bind (OnlyCounters.lift _) (fun v => ?_))
  split
  · split
    · refine OnlyCounters.bind (OnlyCounters.lift _) (fun items => ?_)
      refine OnlyCounters.loopItems (fun v i => ?_) _ _
      unfold renderForStep
      refine OnlyCounters.bind (OnlyCounters.lift _) (fun root0 => OnlyCounters.inSandbox _ ?_)
      exact (isoRel.toMProp).bind ((isoRel.toMProp).bind ((isoRel.toMProp).lift _) (fun t => hbody t))
        (fun _ => isoRel.toMProp.toMRel.takeInterruptM)
    · refine OnlyCounters.bind (OnlyCounters.lift _) (fun root => OnlyCounters.bind (OnlyCounters.lift _) (fun t => ?_))
      exact OnlyCounters.inSandbox _ (hbody t)
  · exact OnlyCounters.lift _

/-- **The partial starts from only its explicit arguments.** Inside `render` every lookup, of any
path, is answered by the partial's own global frame and the argument frame alone: nothing of the
caller (`below`, arbitrary) can be seen.  This and the four statements after it speak of stacks and
objects written out in the shape the `render_` / `include_` arms and `renderForStep` build; that the
arms build this shape is read off `Model/Render.lean`, no statement here says it. -/
theorem C08_render_view (g root : Obj) (q : Regs) (below below' : Stack) (path : List Sc) :
    Stack.tryGet (.global g :: .sandbox root q :: below) path =
    Stack.tryGet (.global g :: .sandbox root q :: below') path :=
  NI.tryGet_low [.global g, .sandbox root q] rfl below below' path

/-- a name resolves in the partial's own assignments `g`, else in the argument frame `root` -/
theorem C08_render_names (g root : Obj) (q : Regs) (below : Stack) (k : Str) :
    Stack.tryGet (.global g :: .sandbox root q :: below) [.str k] = C04.orElse (objGet g k) (objGet root k) := by
  simp only [Stack.tryGet_name_cons, Layer.dict, Layer.notSandbox, if_true]
  cases objGet g k <;> cases objGet root k <;> rfl

/-- **for … as … is truthful**: in iteration `i` of `n` the partial sees the item under the given
name and a `forloop` object describing exactly that iteration (fields: C05_forloop_truthful). -/
theorem C08_for_as_truthful (root0 : Obj) (as_ : Str) (v : V) (i n : Nat) :
    objGet (objInsert (objInsert root0 "forloop".toList (forloopObj i n .nil)) as_ v) as_ = some v ∧
    (as_ ≠ "forloop".toList →
      objGet (objInsert (objInsert root0 "forloop".toList (forloopObj i n .nil)) as_ v) "forloop".toList
        = some (forloopObj i n .nil)) := by
  refine ⟨C18.objInsert_get _ _ _, fun h => ?_⟩
  rw [C18.objInsert_get_other _ _ _ _ (Ne.symm h), C18.objInsert_get]

/-- … and that `forloop` has **no enclosing loop**: whatever loops the caller is in, the
`parentloop` the partial sees is nil (falsy), so nothing of the caller's loop state is reachable
through it. -/
theorem C08_for_as_no_parentloop (i n : Nat) :
    tryFind (forloopObj i n .nil) [.str "parentloop".toList] = some .nil ∧
    tryFind (forloopObj i n .nil) [.str "parentloop".toList, .str "index".toList] = none := by
  constructor <;> simp [tryFind, augGet, forloopObj, objGet, Sc.render, iV, bV]

/-! ### include: shared scope -/

/-- **include runs in the caller's scope.** The partial sees its arguments first and every caller
name otherwise (arguments shadow, nothing is hidden). -/
theorem C08_include_sees_caller (pass : Obj) (caller : Stack) (k : Str) :
    Stack.tryGet (.plain pass :: caller) [.str k] = C04.orElse (objGet pass k) (Stack.tryGet caller [.str k]) :=
  C04.C04_precedence_inner pass caller k

/-- the argument frame is gone after the include, the caller's plain frames are intact, and what
the partial assigned stayed in the caller's global frame (`C04_global_keeps_names`) -/
theorem C08_include_args_vanish (fuel : Nat) (env : Env) (name : Expr) (args : List (Str × Expr)) (rt : Rt) (w : W) :
    ((renderN fuel env (.include_ name args) rt w).2.1).layers.shape = rt.layers.shape ∧
    ∀ (i : Nat) (d : Obj), rt.layers[i]? = some (Layer.plain d) →
      ((renderN fuel env (.include_ name args) rt w).2.1).layers[i]? = some (Layer.plain d) :=
  renderN_keeps_plains env fuel (.include_ name args) rt w

/-- **A break inside an include ends the caller's loop**: the registers current inside the
argument frame are the caller's registers, so the interrupt the partial leaves pending is pending
in the caller when the include returns. -/
theorem C08_include_interrupt_shared (env : Env) (fuel : Nat) (pass : Obj) (t : Tmpl) (rt rt1 : Rt) (w w1 : W)
    (r : Res Unit)
    (h : renderT fuel env t { rt with layers := [Layer.plain pass] ++ rt.layers } w = (r, rt1, w1)) :
    (M.inFrames [.plain pass] (renderT fuel env t) rt w).2.1.regs = rt1.regs := by
  have hsh := renderT_keeps_frames env fuel t { rt with layers := [Layer.plain pass] ++ rt.layers } w
  rw [h] at hsh
  unfold M.inFrames
  rw [h]
  exact Rt.regs_pop hsh Nat.zero_ne_one

/-! ### missing or broken partials -/

/-- **A missing or unparsable partial is an error at that tag**: nothing is written by it and the
runtime is left as it was. -/
theorem C08_missing_is_err_include (fuel : Nat) (env : Env) (name : Expr) (args : List (Str × Expr))
    (rt : Rt) (w : W) (s : Sc) (pass : Obj)
    (hn : name.eval rt.layers = .ok (.sc s)) (hv : evalVars rt.layers args [] = .ok pass)
    (hp : lookupPartial env s.render = .err) :
    renderN (fuel + 1) env (.include_ name args) rt w = (.err, rt, w) := by
  simp [renderN, hn, hv, hp]

theorem C08_missing_is_err_render (fuel : Nat) (env : Env) (name : Expr) (form : RForm) (args : List (Str × Expr))
    (rt : Rt) (w : W) (s : Sc) (root : Obj) (hf : ∀ r a, form ≠ .for_ r a)
    (hn : name.eval rt.layers = .ok (.sc s)) (hv : evalVars rt.layers (form.vars args) [] = .ok root)
    (hp : lookupPartialR env s.render = .err) :
    renderN (fuel + 1) env (.render_ name form args) rt w = (.err, rt, w) := by
  rw [renderN, M.bind'_getSt, hn, M.bind'_lift_ok]
  cases form with
  | for_ r a => exact absurd rfl (hf r a)
  | _ => simp [hv, hp]

/-- a partial name that is not a string is an error as well (stated for `include`; the `render` arm
has the same branch) -/
theorem C08_nonstring_name_is_err (fuel : Nat) (env : Env) (name : Expr) (args : List (Str × Expr))
    (rt : Rt) (w : W) (v : V) (hn : name.eval rt.layers = .ok v) (hv : ∀ s, v ≠ .sc s) :
    renderN (fuel + 1) env (.include_ name args) rt w = (.err, rt, w) := by
  rw [renderN, M.bind'_getSt, hn, M.bind'_lift_ok]
  cases v with
  | sc s => exact absurd rfl (hv s)
  | _ => rfl

/-- what "missing" means for a store given as a table: no entry for the name, or an entry that is
a stored parse error; a well-formed stored partial is found -/
theorem C08_lookup (ps : List (Str × Option Tmpl)) (name : Str) :
    (ps.find? (·.1 == name) = none → lookupPartial (Env.ofList ps) name = .err) ∧
    (∀ n, ps.find? (·.1 == name) = some (n, none) → lookupPartial (Env.ofList ps) name = .err) ∧
    (∀ n t, ps.find? (·.1 == name) = some (n, some t) → lookupPartial (Env.ofList ps) name = .ok t) := by
  refine ⟨fun h => ?_, fun n h => ?_, fun n t h => ?_⟩ <;> simp [lookupPartial, Env.ofList, h]

/-! ### non-interference: the partial's behaviour is a function of its arguments (and the counters) -/

/-- **Inside a sandbox nothing of the caller can be observed.** Two runtimes that agree on every
frame down to and including some sandboxed frame (with a global frame somewhere above their
bottom `n` frames), and whose bottom `n` frames merely have the same kinds and equal counter
frames, cannot be told apart by ANY template: same result, same output.  Proved by a two-run
induction over the whole interpreter (`NI.renderN_ni`, which also says that the runtimes stay
related; that part is not in this statement). -/
theorem C08_sandbox_noninterference (env : Env) (n fuel : Nat) (t : Tmpl) (rt1 rt2 : Rt) (w : W)
    (h : NI.RelN n rt1.layers rt2.layers) :
    (renderT fuel env t rt1 w).1 = (renderT fuel env t rt2 w).1 ∧
    (renderT fuel env t rt1 w).2.2 = (renderT fuel env t rt2 w).2.2 := by
  have o := NI.renderT_ni env n fuel t rt1 rt2 w h
  exact ⟨o.res, o.out⟩

/-- **`render` is a function of its arguments.** Take two callers whose stacks have the same number
and kinds of frames and equal counter frames (`NI.relBelow`) and otherwise arbitrary contents, in
which the partial's name and its arguments (for the `for` form also the collection) evaluate to the
same values.  Then `{% render … %}`, in any form and with any partial, returns the same result and
writes the same output in both: no variable, pending interrupt, cycle position or ifchanged memory
of the caller can influence the partial.  (`ha'` is not used: where `args` are evaluated as they
are, in the `for` form, `form.vars args` is `args`.) -/
theorem C08_render_function_of_args (env : Env) (fuel : Nat) (name : Expr) (form : RForm)
    (args : List (Str × Expr)) (rt1 rt2 : Rt) (w : W)
    (hc : NI.relBelow rt1.layers rt2.layers)
    (hn : name.eval rt1.layers = name.eval rt2.layers)
    (ha : evalVars rt1.layers (form.vars args) [] = evalVars rt2.layers (form.vars args) [])
    (ha' : evalVars rt1.layers args [] = evalVars rt2.layers args [])
    (hr : ∀ rng as_, form = .for_ rng as_ → rng.eval rt1.layers = rng.eval rt2.layers) :
    (renderN (fuel + 1) env (.render_ name form args) rt1 w).1
      = (renderN (fuel + 1) env (.render_ name form args) rt2 w).1 ∧
    (renderN (fuel + 1) env (.render_ name form args) rt1 w).2.2
      = (renderN (fuel + 1) env (.render_ name form args) rt2 w).2.2 := by
  have o := NI.render_ni env fuel name form args rt1 rt2 w hc hn ha hr
  exact ⟨o.1, o.2.1⟩

/-- non-vacuity: two fresh runtimes over *different* caller data satisfy the counter hypothesis, and
a literal partial name with literal arguments satisfies the others -/
example (d1 d2 : Obj) : NI.relBelow (Rt.build d1).layers (Rt.build d2).layers := by
  refine ⟨⟨rfl, ?_⟩, ⟨rfl, ?_⟩, ⟨rfl, ?_⟩, trivial⟩ <;> intro c1 c2 h1 h2 <;> simp_all

example (d1 d2 : Obj) (s : Str) (v : V) :
    (Expr.lit (.sc (.str s))).eval (Rt.build d1).layers = (Expr.lit (.sc (.str s))).eval (Rt.build d2).layers ∧
    evalVars (Rt.build d1).layers [("x".toList, .lit v)] [] = evalVars (Rt.build d2).layers [("x".toList, .lit v)] [] :=
  ⟨rfl, rfl⟩

end Liquid.C08
