/-
  C11 — Value equality and ordering are coherent and construction-independent.

  Model: `valueEq`, `valueCmp`, `vLt/vLe/vGt/vGe`, `V.queryState` of Model/Value.lean
  (`value_eq`, `value_cmp` of value/view.rs; `scalar_eq`, `scalar_cmp` of scalar/mod.rs; the default
  `PartialOrd` methods).  `valueCmp` is the REPAIRED comparison (objects compared in key order,
  patches/C11-object-cmp-sorted.diff); `valueCmpOld` is the code at the pinned commit (defect D12).

  Side conditions (Spec/C11.lean, all decidable):
    WF a       no `Truthy`/`DefaultValue` marker anywhere in `a` (templates cannot produce them);
    NoTruthy a no `Truthy` marker (weaker than WF; all that symmetry/reflexivity need);
    WFV a      every object in `a` has pairwise distinct keys (invariant of a HashMap-backed object);
    NaNFree a  no NaN anywhere in `a`.
  Every excluded point has a `_counterexample` theorem; the harness replays those that can be
  built with the public API (markers, NaN, 2^53+1, date/date-time, bool) on the implementation.
-/
import LiquidModel.Lemmas.C11Canon
import LiquidModel.Model.Ast
namespace Liquid.C11
open Liquid Liquid.C11L

/-! ## 1. equality is symmetric -/

/-- `a == b` and `b == a` agree for values without the `Truthy` marker whose objects have distinct keys. -/
theorem C11_symm_noTruthy (a b : V) (ha : NoTruthy a = true) (hb : NoTruthy b = true)
    (hwa : WFV a = true) (hwb : WFV b = true) : valueEq a b = valueEq b a :=
  valueEq_symm a b ha hb hwa hwb

/-- the same under `WF` (neither `Truthy` nor `DefaultValue`), the condition templates meet. -/
theorem C11_symm (a b : V) (ha : WF a = true) (hb : WF b = true)
    (hwa : WFV a = true) (hwb : WFV b = true) : valueEq a b = valueEq b a :=
  valueEq_symm a b (noTruthy_of_wf a ha) (noTruthy_of_wf b hb) hwa hwb

example : WF oAB = true ∧ WFV oAB = true ∧ WF (.arr [bT, .nil, .st .empty]) = true := by decide

/-- excluded point: the `Truthy` marker (`State::is_truthy` answers `false`, the other three `true`). -/
theorem C11_symm_truthy_counterexample :
    valueEq (.st .truthy) (.st .empty) = false ∧ valueEq (.st .empty) (.st .truthy) = true := by
  constructor <;> (rw [valueEq_flat rfl]; decide)

/-- why `WFV` is a hypothesis: with a repeated key (impossible for a HashMap) `value_eq`'s
"every key of x is in y with an equal value" is one-directional. -/
theorem C11_symm_duplicate_keys_counterexample :
    valueEq (.obj [("k".toList, i 1), ("k".toList, i 1)]) (.obj [("k".toList, i 1), ("j".toList, i 5)]) = true ∧
    valueEq (.obj [("k".toList, i 1), ("j".toList, i 5)]) (.obj [("k".toList, i 1), ("k".toList, i 1)]) = false := by
  constructor
  · rw [valueEq_obj, eqObj_cons, eqObj_cons, eqObj_nil, eqGet_cons_eq, valueEq_flat rfl]; decide
  · rw [valueEq_obj, eqObj_cons, eqObj_cons, eqObj_nil, eqGet_cons_eq, valueEq_flat rfl,
      eqGet_cons_ne _ _ _ _ _ (by decide), eqGet_cons_ne _ _ _ _ _ (by decide), eqGet_eq]
    decide

/-- nil and `false` are equal in both directions, nil and `true` are not (Ruby truthiness rows). -/
theorem C11_nil_false :
    valueEq .nil bF = true ∧ valueEq bF .nil = true ∧ valueEq .nil bT = false ∧ valueEq bT .nil = false := by
  refine ⟨?_, ?_, ?_, ?_⟩ <;> (rw [valueEq_flat rfl]; decide)

/-- the rule `(_, Bool(b)) | (Bool(b), _) => b`: a boolean compared with any non-boolean scalar,
array or object is the boolean itself — in both argument orders. -/
theorem C11_bool_vs_any (b : Bool) (v : V)
    (hv : (match v with | .sc (.bool _) => false | .sc _ => true | .arr _ => true | .obj _ => true | _ => false) = true) :
    valueEq (.sc (.bool b)) v = b ∧ valueEq v (.sc (.bool b)) = b := by
  cases v with
  | sc x =>
    rw [valueEq_flat rfl, valueEq_flat rfl]
    cases x <;> first | exact ⟨rfl, rfl⟩ | cases hv
  | arr xs | obj xs => rw [valueEq_flat rfl, valueEq_flat rfl]; exact ⟨rfl, rfl⟩
  | nil | st _ => cases hv

/-! ## 2. equality is reflexive (NaN excepted) -/

theorem C11_refl (a : V) (ht : NoTruthy a = true) (hw : WFV a = true) (hn : NaNFree a = true) :
    valueEq a a = true := valueEq_refl a ht hw hn

example : NoTruthy oAB = true ∧ WFV oAB = true ∧ NaNFree oAB = true := by decide

theorem C11_refl_nan_counterexample : NaNFree (fl fNaN) = false ∧ valueEq (fl fNaN) (fl fNaN) = false := by
  constructor
  · decide
  · rw [valueEq_flat rfl]; decide

theorem C11_refl_truthy_counterexample : valueEq (.st .truthy) (.st .truthy) = false := by
  rw [valueEq_flat rfl]; decide

/-! ## 3. `!=` is the negation of `==` -/

/-- `!=` is the negation of `==`, in the API model and in the `{% if %}` comparison operators.
Nothing is proved here: `vNe` is defined as the negation (Rust's provided `PartialEq::ne`, which no
impl in the crate overrides) and `cmpOpEval` computes `==` / `!=` as `valueEq` / its negation, so
all three equations are definitional; the theorem records these two modelling decisions. -/
theorem C11_ne (a b : V) :
    vNe a b = !valueEq a b ∧ cmpOpEval .eq a b = .ok (valueEq a b) ∧ cmpOpEval .ne a b = .ok (!valueEq a b) :=
  ⟨rfl, rfl, rfl⟩

/-! ## 4. `<` and `>` are duals -/

/-- `partial_cmp(b, a)` is `partial_cmp(a, b)` reversed — for ALL values (no side condition). -/
theorem C11_dual (a b : V) : valueCmp b a = swapO (valueCmp a b) := valueCmp_dual a b

theorem C11_lt_gt_dual (a b : V) : vLt a b = vGt b a ∧ vLe a b = vGe b a := by
  unfold vLt vGt vLe vGe
  rw [C11_dual a b]
  rcases valueCmp a b with _ | _ | _ | _ <;> exact ⟨rfl, rfl⟩

/-! ## 5. consistency of `<  <=  >  >=` with `partial_cmp` and with equality -/

/-- whenever two values are ordered the four operators are what the ordering says. -/
theorem C11_ordered_ops (a b : V) (o : Ordering) (h : valueCmp a b = some o) :
    (vLt a b = true ↔ o = .lt) ∧ (vGt a b = true ↔ o = .gt) ∧
    (vLe a b = true ↔ (o = .lt ∨ o = .eq)) ∧ (vGe a b = true ↔ (o = .gt ∨ o = .eq)) := by
  unfold vLt vGt vLe vGe
  rw [h]; cases o <;> simp

/-- unordered values: every strict or non-strict comparison is `false`. -/
theorem C11_unordered (a b : V) (h : valueCmp a b = none) :
    vLt a b = false ∧ vGt a b = false ∧ vLe a b = false ∧ vGe a b = false := by
  unfold vLt vGt vLe vGe
  rw [h]
  exact ⟨rfl, rfl, rfl, rfl⟩

/-- whenever two values are ordered, they are equal (in either argument order) exactly when the
ordering says `Equal`.  No marker hypothesis is needed: markers are never ordered. -/
theorem C11_eq_iff_cmp_eq (a b : V) (hwa : WFV a = true) (hwb : WFV b = true) (o : Ordering)
    (h : valueCmp a b = some o) : (valueEq a b = true ↔ o = .eq) ∧ (valueEq b a = true ↔ o = .eq) :=
  ⟨valueCmp_eq_iff a b hwa hwb o h,
    (valueCmp_eq_iff b a hwb hwa o.swap (by rw [valueCmp_dual a b, h, swapO_some])).trans
      Ordering.swap_eq_eq⟩

/-- whenever two values are ordered, `<=` / `>=` hold exactly when `<` / `>` or equality does. -/
theorem C11_consistent (a b : V) (hwa : WFV a = true) (hwb : WFV b = true) (o : Ordering)
    (h : valueCmp a b = some o) :
    (vLe a b = true ↔ (vLt a b = true ∨ valueEq a b = true)) ∧
    (vGe a b = true ↔ (vGt a b = true ∨ valueEq a b = true)) := by
  obtain ⟨h1, h2, h3, h4⟩ := C11_ordered_ops a b o h
  obtain ⟨e1, _⟩ := C11_eq_iff_cmp_eq a b hwa hwb o h
  rw [h1, h2, h3, h4, e1]
  exact ⟨Iff.rfl, Iff.rfl⟩

theorem C11_equal_never_strictly_ordered (a b : V) (hwa : WFV a = true) (hwb : WFV b = true)
    (he : valueEq a b = true) : vLt a b = false ∧ vGt a b = false := by
  rcases hc : valueCmp a b with _ | o
  · exact ⟨(C11_unordered a b hc).1, (C11_unordered a b hc).2.1⟩
  · obtain rfl := (C11_eq_iff_cmp_eq a b hwa hwb o hc).1.1 he
    unfold vLt vGt
    rw [hc]
    exact ⟨rfl, rfl⟩

example : valueCmp (i 1) (fl f1) = some .eq ∧ WFV (i 1) = true := by decide +kernel

/-- equality does not imply being ordered (so `<=` can be false for equal values of different kinds):
`true == 1` but `true <= 1` is false.  Outside the property's "whenever two values are ordered". -/
theorem C11_equal_unordered_counterexample :
    valueEq bT (i 1) = true ∧ valueCmp bT (i 1) = none ∧ vLe bT (i 1) = false := by
  refine ⟨?_, by decide, by decide⟩
  rw [valueEq_flat rfl]; decide

/-! ## 6. an integer and a float denoting the same number are equal -/

/-- for |n| ≤ 2^53 an integer equals a float exactly when the float denotes n (both orders), and
they then compare `Equal`. -/
theorem C11_int_float (n : Int) (f : Fl) (hn : -(2 : Int) ^ 53 ≤ n ∧ n ≤ 2 ^ 53) :
    valueEq (.sc (.int n)) (.sc (.flt f)) = denotesInt f n ∧
    valueEq (.sc (.flt f)) (.sc (.int n)) = denotesInt f n ∧
    (denotesInt f n = true → valueCmp (.sc (.int n)) (.sc (.flt f)) = some .eq) := by
  have hr := roundI64ToF64_exact n hn
  have e1 : valueEq (.sc (.int n)) (.sc (.flt f)) = denotesInt f n := by
    rw [valueEq_flat rfl]
    show (FV.ofI64 n).eq f.toFV = denotesInt f n
    rw [FV.ofI64, hr, denotesInt]
    cases f.toFV <;> first | rfl | exact BEq.comm
  refine ⟨e1, (valueEq_symm _ _ rfl rfl rfl rfl).trans e1, fun hd => ?_⟩
  -- on floats `Equal` is the order's word for `==`
  exact (FV.cmp_eq_iff (FV.ofI64 n) f.toFV).2 ((valueEq_flat rfl).symm.trans (e1.trans hd))

example : denotesInt { bits := f1 } 1 = true ∧ denotesInt { bits := f2p53 } (2 ^ 53) = true := by decide +kernel

/-- above 2^53 `x as f64` rounds: 2^53 + 1 "equals" the float 2^53 although they denote different
numbers (and equality stops being transitive: 2^53 + 1 == 2^53.0 == 2^53 but 2^53 + 1 != 2^53). -/
theorem C11_int_float_above_2p53_counterexample :
    denotesInt { bits := f2p53 } (2 ^ 53 + 1) = false ∧
    valueEq (i (2 ^ 53 + 1)) (fl f2p53) = true ∧ valueEq (fl f2p53) (i (2 ^ 53)) = true ∧
    valueEq (i (2 ^ 53 + 1)) (i (2 ^ 53)) = false := by
  refine ⟨by decide +kernel, ?_, ?_, ?_⟩ <;> rw [valueEq_flat rfl] <;> decide +kernel

/-! ## 7. the outcome depends only on the values (construction independence) -/

/-- `==` and `partial_cmp` only look at the canonical representative (entries of every object, at
any depth, sorted by key). -/
theorem C11_canon (a b : V) (hwa : WFV a = true) (hwb : WFV b = true) :
    valueEq a b = valueEq (canon a) (canon b) ∧ valueCmp a b = valueCmp (canon a) (canon b) :=
  ⟨(valueEq_canon a b hwa hwb).symm, (valueCmp_canon a b).symm⟩

/-- Construction independence at full depth: if `a'` and `b'` are `a` and `b` with the entry lists
of any of their objects (nested anywhere) in a different iteration order, every comparison gives
the same answer. -/
theorem C11_construction_independent (a a' b b' : V) (pa : VPerm a a') (pb : VPerm b b')
    (hwa : WFV a = true) (hwb : WFV b = true) :
    valueEq a b = valueEq a' b' ∧ valueCmp a b = valueCmp a' b' ∧
    vLt a b = vLt a' b' ∧ vLe a b = vLe a' b' ∧ vGt a b = vGt a' b' ∧ vGe a b = vGe a' b' := by
  have he : valueEq a b = valueEq a' b' := by
    rw [← valueEq_canon a b hwa hwb, ← valueEq_canon a' b' (pa.wfv hwa) (pb.wfv hwb),
      pa.canon_eq hwa, pb.canon_eq hwb]
  have hc : valueCmp a b = valueCmp a' b' := by
    rw [← valueCmp_canon a b, ← valueCmp_canon a' b', pa.canon_eq hwa, pb.canon_eq hwb]
  refine ⟨he, hc, ?_, ?_, ?_, ?_⟩ <;> simp only [vLt, vLe, vGt, vGe, hc]

example : VPerm oAB oBA ∧ WFV oAB = true :=
  ⟨VPerm.objPerm (List.Perm.swap _ _ _), by decide⟩

/-- the one-level case: permuting the entry lists of two objects changes neither `==` nor
`partial_cmp` (repaired `value_cmp`).  The third conjunct is the second once more: `valueCmp` of two
objects unfolds to `cmpO` of their entry lists. -/
theorem C11_perm_invariant (xs xs' ys ys' : Obj) (hx : xs.Perm xs') (hy : ys.Perm ys')
    (hnx : WFV (.obj xs) = true) (hny : WFV (.obj ys) = true) :
    valueEq (.obj xs) (.obj ys) = valueEq (.obj xs') (.obj ys') ∧
    valueCmp (.obj xs) (.obj ys) = valueCmp (.obj xs') (.obj ys') ∧
    cmpO xs ys = cmpO xs' ys' := by
  obtain ⟨he, hc, _⟩ := C11_construction_independent _ _ _ _ (.objPerm hx) (.objPerm hy) hnx hny
  exact ⟨he, hc, hc⟩

/-- D12, the code at the pinned commit: two equal two-key objects whose hash maps iterate in
different orders compare `Less` (and `Greater` the other way round) instead of `Equal`. -/
theorem C11_perm_cmp_old_counterexample :
    valueEq oAB oBA = true ∧ valueCmpOld oAB oBA = some .lt ∧ valueCmpOld oBA oAB = some .gt ∧
    valueCmpOld oAB oAB = some .eq ∧ valueCmp oAB oBA = some .eq := by
  refine ⟨?_, by decide, by decide, by decide, by decide⟩
  unfold oAB oBA i
  rw [valueEq_obj, eqObj_cons, eqObj_cons, eqObj_nil, eqGet_cons_ne _ _ _ _ _ (by decide), eqGet_cons_eq,
    eqGet_cons_eq, valueEq_flat rfl, valueEq_flat rfl]
  decide

/-! ## 8. transitivity: what holds and what does not (triples) -/

theorem vLe_eq (a b : V) : vLe a b = leO (valueCmp a b) := by
  unfold vLe
  rcases valueCmp a b with _ | _ | _ | _ <;> rfl

/-- inside one scalar kind equality is transitive and the order is a preorder. -/
theorem C11_trans_within_kind (x y z : Sc) (k1 : scKind x = scKind y) (k2 : scKind y = scKind z) :
    (valueEq (.sc x) (.sc y) = true → valueEq (.sc y) (.sc z) = true → valueEq (.sc x) (.sc z) = true) ∧
    (vLt (.sc x) (.sc y) = true → vLt (.sc y) (.sc z) = true → vLt (.sc x) (.sc z) = true) ∧
    (vLe (.sc x) (.sc y) = true → vLe (.sc y) (.sc z) = true → vLe (.sc x) (.sc z) = true) := by
  obtain ⟨t1, t2, t3⟩ := scalar_trans x y z k1 k2
  refine ⟨?_, ?_, ?_⟩
  · rw [valueEq_flat rfl, valueEq_flat rfl, valueEq_flat rfl]
    exact t1
  · simp only [vLt, valueCmp, beq_iff_eq]
    exact t2
  · rw [vLe_eq, vLe_eq, vLe_eq]
    exact t3

/-- the bool-vs-anything rule makes equality non-transitive across kinds: 1 == true == 2, 1 != 2. -/
theorem C11_eq_trans_bool_counterexample :
    valueEq (i 1) bT = true ∧ valueEq bT (i 2) = true ∧ valueEq (i 1) (i 2) = false := by
  refine ⟨?_, ?_, ?_⟩ <;> rw [valueEq_flat rfl] <;> decide

/-- a date compares with a date-time by the *local* calendar day, two date-times by the instant:
`x < d < y` and yet `x > y`. -/
theorem C11_lt_trans_date_counterexample :
    vLt dtX dD = true ∧ vLt dD dtY = true ∧ vGt dtX dtY = true := by decide

/-! ## 9. the executable laws used to judge the implementation hold of the model (M ⊨ S) -/

/-- one direction: `!=`, the four operators, and the two order/equality laws. -/
theorem C11_spec_sound_one (a b : V) (w : Bool) :
    lawsOne (WFV a && WFV b) (modelPOb a b w) = none := by
  -- the only fact about values that `lawsOne` needs; the rest is a finite table in (cmp, eq, wfv)
  have key : (WFV a && WFV b) = true → ∀ o, valueCmp a b = some o → (valueEq a b = true ↔ o = .eq) :=
    fun hw o hc => (C11_eq_iff_cmp_eq a b (Bool.and_eq_true _ _ ▸ hw).1 (Bool.and_eq_true _ _ ▸ hw).2 o hc).1
  unfold lawsOne modelPOb vNe vLt vLe vGt vGe
  generalize valueCmp a b = c at key ⊢
  generalize valueEq a b = e at key ⊢
  generalize (WFV a && WFV b) = v at key ⊢
  rcases c with _ | _ | _ | _ <;> cases e <;> cases v <;> cases w <;>
    first | rfl | exact absurd (key rfl _ rfl) (by decide)

/-- both directions: symmetry of `==` and duality of the order. -/
theorem C11_spec_sound_two (a b : V) :
    lawsTwo (NoTruthy a && NoTruthy b) (WFV a && WFV b) (modelPOb a b true) (modelPOb b a true) = none := by
  have hs : ((NoTruthy a && NoTruthy b) && (WFV a && WFV b) && (valueEq a b != valueEq b a)) = false := by
    rcases h1 : (NoTruthy a && NoTruthy b) with _ | _
    · rfl
    · rcases h2 : (WFV a && WFV b) with _ | _
      · rfl
      · simp only [Bool.and_eq_true] at h1 h2
        rw [C11_symm_noTruthy a b h1.1 h1.2 h2.1 h2.2]; simp
  have hd := C11_dual a b
  have hlg := C11_lt_gt_dual a b
  have hgl := C11_lt_gt_dual b a
  simp only [lawsTwo, modelPOb, if_true, hs, Bool.false_eq_true, if_false, hd, bne_self_eq_false,
    hlg.1, hgl.1, Bool.or_self]

theorem and_and_not {p q r : Bool} (h : p = true → q = true → r = true) : (p && q && !r) = false := by
  cases p <;> cases q <;> cases r <;> first | rfl | exact absurd (h rfl rfl) Bool.false_ne_true

/-- triples: the transitivity laws are only demanded inside one scalar kind, where they hold. -/
theorem C11_spec_sound_triple (a b c : V) :
    lawsTriple a b c (valueEq a b) (valueEq b c) (valueEq a c) (valueCmp a b) (valueCmp b c) (valueCmp a c) = none := by
  unfold lawsTriple
  cases hk : sameScKind a b c
  · rfl
  · unfold sameScKind at hk
    split at hk
    next x y z =>
      simp only [Bool.and_eq_true, beq_iff_eq] at hk
      obtain ⟨t1, t2, t3⟩ := C11_trans_within_kind x y z hk.1 hk.2
      have l := and_and_not t2
      have le := and_and_not t3
      rw [vLe_eq, vLe_eq, vLe_eq] at le
      simp only [Bool.not_true, Bool.false_eq_true, if_false, and_and_not t1]
      exact (if_neg (ne_true_of_eq_false l)).trans (if_neg (ne_true_of_eq_false le))
    next => cases hk

end Liquid.C11
