/-
  C04 — scoping: innermost binding wins, assignments persist, caller data untouched.
  Model: `Model/Find.lean` (frames), `Model/Render.lean` (assign, capture, increment, for, include);
  whole-interpreter invariants from `Lemmas/Scope.lean` and `Lemmas/Sink.lean`.
-/
import LiquidModel.Lemmas.Scope
import LiquidModel.Lemmas.Sink
import LiquidModel.Props.C18
namespace Liquid.C04

def orElse {α} : Option α → Option α → Option α
  | some a, _ => some a
  | none, b => b

/-- **Precedence.** In the runtime a render starts with — assigned/captured variables (global
frame `g`) over the caller's data over the increment/decrement counters `c` — a name resolves to
its innermost binding: `g` first, then `data`, then `c`.  The loop-variable / include-argument
frames that come on top during the render are `C04_precedence_inner`. -/
theorem C04_precedence_base (g data c : Obj) (k : Str) :
    Stack.tryGet [.global g, .plain data, .index c] [.str k] =
      orElse (objGet g k) (orElse (objGet data k) (objGet c k)) := by
  simp only [Stack.tryGet_name_cons, Layer.dict, Layer.notSandbox, if_true]
  cases objGet g k <;> cases objGet data k <;> cases objGet c k <;> rfl

/-- a loop-variable / include-argument frame shadows everything below for the names it binds and
is transparent for all others -/
theorem C04_precedence_inner (d : Obj) (below : Stack) (k : Str) :
    Stack.tryGet (.plain d :: below) [.str k] = orElse (objGet d k) (Stack.tryGet below [.str k]) := by
  rw [Stack.tryGet_name_cons]
  cases h : objGet d k <;> simp [Layer.dict, Layer.notSandbox, h, orElse]

/-- **assign binds in the global frame, whatever the depth.** Executed under any number of
loop / include frames — plain or counter frames none of which binds `x` itself (`C18.passes x`) —
`assign x = v` writes `x` into the render's global frame, and `x` looked up from the innermost frame
is then `v`.  (The write needs less, `Stack.setGlobal_append`: no global frame above.  An inner frame
that binds `x`, a loop variable `x`, is outside this statement.) -/
theorem C04_assign_global (fuel : Nat) (env : Env) (x : Str) (e : Expr) (v : V)
    (inner : Stack) (g : Obj) (below : Stack) (core : Regs) (w : W)
    (hin : inner.all (C18.passes x) = true)
    (he : evalChain env (inner ++ .global g :: below) e [] = .ok v) :
    renderN (fuel + 1) env (.assign x e []) { layers := inner ++ .global g :: below, core := core } w
      = (.ok (), { layers := inner ++ .global (objInsert g x v) :: below, core := core }, w) ∧
    Stack.tryGet (inner ++ .global (objInsert g x v) :: below) [.str x] = some v := by
  obtain ⟨h1, h2⟩ := C18.C18_set_global_nearest inner g below x v hin
  refine ⟨?_, h2⟩
  simp [renderN, he, setGlobalM, h1]

/-- **A bound name stays bound for the rest of the render**: whatever is rendered afterwards
(any template, any outcome), a global frame still binds every name it bound before. -/
theorem C04_global_keeps_names (env : Env) (fuel : Nat) (t : Tmpl) (rt : Rt) (w : W)
    (i : Nat) (g : Obj) (k : Str) (hi : rt.layers[i]? = some (Layer.global g)) (hk : objContains g k = true) :
    ∃ g', ((renderT fuel env t rt w).2.1).layers[i]? = some (Layer.global g') ∧ objContains g' k = true :=
  let ⟨_, e, r⟩ := (Pres.renderT globalsGrow env fuel t rt w).2 i _ hi
  let ⟨g', eg, hk'⟩ := r g k rfl hk
  ⟨g', eg ▸ e, hk'⟩

/-- **capture binds exactly the text its body would have printed**, and prints nothing itself:
if the body, run against any never-failing sink holding `o`, appends the fragments `δ`, then the
capture block leaves the outer sink untouched and assigns `δ` concatenated. -/
theorem C04_capture_exact (fuel : Nat) (env : Env) (x : Str) (body : Tmpl) (rt : Rt) (w : W) :
    ∃ (r : Res Unit) (rt' : Rt) (δ : List Str),
      (∀ o, renderT fuel env body rt ⟨o, none⟩ = (r, rt', ⟨o ++ δ, none⟩)) ∧
      renderN (fuel + 1) env (.capture x body) rt w =
        (match r with
         | .ok () => setGlobalM x (.sc (.str δ.flatten)) rt' w
         | .err => (.err, rt', w) | .io => (.io, rt', w) | .panic s => (.panic s, rt', w) | .fuel => (.fuel, rt', w)) := by
  obtain ⟨r, rt', δ, h1, _, _⟩ := renderT_sinkOk env fuel body rt
  refine ⟨r, rt', δ, h1, ?_⟩
  have h0 : renderT fuel env body rt {} = (r, rt', ⟨δ, none⟩) := by simpa using h1 []
  rw [renderN]
  show (M.capture (renderT fuel env body) >>= fun s => setGlobalM x (.sc (.str s))) rt w = _
  rw [M.run_bind]
  unfold M.capture
  rw [h0]
  cases r <;> simp [W.text, M.castErr]

/-- **A loop variable stops existing when its loop ends; caller data is never modified.** After
rendering any element (in particular a whole `for` loop or an `include`), the runtime has exactly
the frames it had before and every plain frame — the caller's data object, enclosing loop
variables — is unchanged. -/
theorem C04_loopvar_scoped (env : Env) (fuel : Nat) (n : Node) (rt : Rt) (w : W) :
    ((renderN fuel env n rt w).2.1).layers.shape = rt.layers.shape ∧
    ∀ (i : Nat) (d : Obj), rt.layers[i]? = some (Layer.plain d) →
      ((renderN fuel env n rt w).2.1).layers[i]? = some (Layer.plain d) :=
  renderN_keeps_plains env fuel n rt w

/-- **The caller's data object is never modified** by a render, whatever the template does and
however it ends. -/
theorem C04_data_untouched (env : Env) (fuel : Nat) (t : Tmpl) (globals : Obj) (w : W) :
    ((renderT fuel env t (Rt.build globals) w).2.1).layers[1]? = some (Layer.plain globals) :=
  (renderT_keeps_plains env fuel t (Rt.build globals) w).2 1 globals rfl

/-- **increment prints the counter, then bumps it**; counters live in their own frame, below the
caller's data in lookups (`C04_precedence_base`). -/
theorem C04_increment (fuel : Nat) (env : Env) (x : Str) (g data c : Obj) (core : Regs) (o : List Str)
    (hv : inI64 (counterVal [.global g, .plain data, .index c] x + 1) = true) :
    let val := counterVal [.global g, .plain data, .index c] x
    renderN (fuel + 1) env (.incr x) { layers := [.global g, .plain data, .index c], core := core } ⟨o, none⟩ =
      (.ok (), { layers := [.global g, .plain data, .index (objInsert c x (iV (val + 1)))], core := core },
       ⟨o ++ [intRepr val], none⟩) := by
  intro val
  have hne : (intRepr val).isEmpty = false := by
    unfold intRepr natDigits
    split
    · rfl
    · exact List.isEmpty_eq_false_iff.mpr Nat.toDigits_ne_nil
  -- the counter frame is the first frame that `set_index` does not pass
  have hset : ∀ v, Stack.setIndex [.global g, .plain data, .index c] x v =
      .ok [.global g, .plain data, .index (objInsert c x v)] :=
    Stack.setIndex_append (a := [.global g, .plain data]) rfl c [] x
  -- `emit` appends one fragment, the text being non-empty; `hv`: no overflow
  simp [renderN, M.emit, W.write, hne, hv, val, setIndexM, hset, M.run_bind]

def Layer.binds : Layer → Str → Bool
  | .plain d, k | .global d, k | .index d, k | .sandbox d _, k => objContains d k

/-- **A name nobody binds does not exist**, whatever it is called — also `size`, `first`, `last`,
which objects and arrays answer as synthetic members: no frame of any kind resolves a root name it
does not itself bind, for every path that starts with it. -/
theorem C04_unbound_absent (st : Stack) (k : Sc) (p : List Sc)
    (h : ∀ l ∈ st, Layer.binds l k.render = false) :
    st.tryGet (k :: p) = none ∧ st.get (k :: p) = .err := by
  induction st with
  | nil => exact ⟨rfl, rfl⟩
  | cons l r ih =>
    have hl := h l (List.mem_cons_self)
    have hr := ih (fun l' hl' => h l' (List.mem_cons_of_mem _ hl'))
    have hd : objContains l.dict k.render = false := by cases l <;> exact hl
    rw [Stack.tryGet_cons, C18.get_cons, hd, hr.1, hr.2]
    cases l.notSandbox <;> exact ⟨rfl, rfl⟩

/-- **A re-bound name hides the outer datum completely**: when the top frame, plain or global, binds
the root of a path, the path is resolved inside that frame's value alone — whatever the frames
below hold for the same name (a member only the shadowed value has does not exist). -/
theorem C04_shadow_hides_subpaths (d : Obj) (below below' : Stack) (k : Sc) (p : List Sc)
    (hb : objContains d k.render = true) :
    Stack.tryGet (.plain d :: below) (k :: p) = Stack.tryGet (.plain d :: below') (k :: p) ∧
    Stack.tryGet (.global d :: below) (k :: p) = Stack.tryGet (.global d :: below') (k :: p) ∧
    Stack.tryGet (.plain d :: below) (k :: p) = tryFind (.obj d) (k :: p) ∧
    Stack.get (.plain d :: below) (k :: p) = find (.obj d) (k :: p) ∧
    Stack.get (.global d :: below) (k :: p) = find (.obj d) (k :: p) := by
  simp only [Stack.tryGet_cons, C18.get_cons, C18.find_eq_ofOpt, Layer.dict, hb, if_true, and_self]

/-- **Every argument of an include / render is a binding, whatever its value** — a nil value included:
each named argument that evaluates ends up as a key of the argument frame, so inside the partial it
shadows what lower layers hold for that name (with `C04_precedence_inner`). -/
theorem C04_every_argument_binds (st : Stack) (args : List (Str × Expr)) (acc pass : Obj)
    (h : evalVars st args acc = .ok pass) :
    (∀ k, objContains acc k = true → objContains pass k = true) ∧
    (∀ kv ∈ args, objContains pass kv.1 = true) := by
  induction args generalizing acc with
  | nil =>
    simp only [evalVars, Res.ok.injEq] at h
    subst h
    exact ⟨fun _ hk => hk, fun _ hkv => nomatch hkv⟩
  | cons a r ih =>
    obtain ⟨k, e⟩ := a
    simp only [evalVars] at h
    cases hv : e.tryEval st with
    | none => simp [hv] at h
    | some v =>
      simp only [hv] at h
      obtain ⟨ih1, ih2⟩ := ih (objInsert acc k v) h
      refine ⟨fun k' hk' => ih1 k' (C18.objContains_insert_other acc k k' v hk'), ?_⟩
      intro kv hkv
      rcases List.mem_cons.mp hkv with rfl | hkv
      · exact ih1 k (C18.objInsert_contains acc k v)
      · exact ih2 kv hkv

/-! ### non-vacuity: the innermost of three bindings wins; `hin` of `C04_assign_global` with no inner frame -/
example : Stack.tryGet [.plain [("a".toList, iV 1)], .global [("a".toList, iV 2)], .plain [("a".toList, iV 3)], .index []]
    [.str "a".toList] = some (iV 1) := by rfl
example : ([] : Stack).all (C18.passes "a".toList) = true := rfl

end Liquid.C04
