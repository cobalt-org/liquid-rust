/-
  C15 — arithmetic filters are exact or fail; they never wrap or crash.
  Model: `Model/Math.lean` = filters/math.rs with patch `patches/C15-checked-int-arith.diff` (D6)
  applied; the pinned code is `IntArith.old`.
-/
import LiquidModel.Lemmas.C15
namespace Liquid.C15

/-- the mathematical (unbounded) result of the three ring operations -/
def mathResult : MathOp → Int → Int → Int
  | .plus, a, b => a + b
  | .minus, a, b => a - b
  | .times, a, b => a * b
  | _, _, _ => 0

private theorem arithNew_ring {op : MathOp} (hop : op = .plus ∨ op = .minus ∨ op = .times) (y : Sc) (a b : Int) :
    (op.isDiv && zeroGuard y) = false ∧
    arithNew op a b = .ok (if inI64 (mathResult op a b) then some (mathResult op a b) else none) := by
  rcases hop with rfl | rfl | rfl <;> exact ⟨rfl, rfl⟩

/-- **Exact or not an integer** (plus, minus, times).  For operands that read as integers (integer
scalars and strings that `parse::<i64>` accepts): when the mathematical result fits in 64 bits the
filter returns exactly that integer; otherwise it is an error or a float — in particular never a
different (wrapped) integer and never a panic. -/
theorem C15_int_exact (ops : FloatOps) (op : MathOp) (hop : op = .plus ∨ op = .minus ∨ op = .times)
    (x y : Sc) (a b : Int) (hx : x.toInteger? = some a) (hy : y.toInteger? = some b) :
    (inI64 (mathResult op a b) = true →
        binScalars .new ops op x y = .ok (intV (mathResult op a b))) ∧
    (inI64 (mathResult op a b) = false →
        binScalars .new ops op x y = .err ∨ ∃ f, binScalars .new ops op x y = .ok (fltV f)) := by
  obtain ⟨hg, hr⟩ := arithNew_ring hop y a b
  constructor <;> intro hm <;> rw [hm] at hr
  · exact binScalars_int_some hx hy hg hr
  · rw [binScalars_int_none hx hy hg hr]
    exact floatPath_cases ops op x y

/-- With integer *scalars* the overflow case continues in floating point with the IEEE operation
on the converted operands (glue: the operation itself is the external `ops`). -/
theorem C15_int_overflow_continues_in_float (ops : FloatOps) (op : MathOp)
    (hop : op = .plus ∨ op = .minus ∨ op = .times) (a b : Int)
    (hm : inI64 (mathResult op a b) = false) :
    binFilter .new ops op (intV a) [intV b] = .ok (fltV (binFlt ops op (f64OfInt a) (f64OfInt b))) := by
  obtain ⟨hg, hr⟩ := arithNew_ring hop (.int b) a b
  rw [hm] at hr
  exact binScalars_int_none (x := .int a) rfl rfl hg hr

/-- at_least / at_most on integer operands are exactly max / min (always representable). -/
theorem C15_int_exact_minmax (ops : FloatOps) (x y : Sc) (a b : Int)
    (hx : x.toInteger? = some a) (hy : y.toInteger? = some b) :
    binScalars .new ops .atLeast x y = .ok (intV (max a b)) ∧
    binScalars .new ops .atMost x y = .ok (intV (min a b)) :=
  ⟨binScalars_int_some hx hy rfl rfl, binScalars_int_some hx hy rfl rfl⟩

/-- abs on an integer operand: `|a|` when it fits (i.e. `a ≠ i64::MIN`), else an error or a float. -/
theorem C15_int_exact_abs (x : Sc) (a : Int) (hx : x.toInteger? = some a) (ha : inI64 a = true) :
    (inI64 ((a.natAbs : Int)) = true → absScalar .new x = .ok (intV ((a.natAbs : Int)))) ∧
    (inI64 ((a.natAbs : Int)) = false →
        absScalar .new x = .err ∨ ∃ f, absScalar .new x = .ok (fltV f)) := by
  have hmin : a = i64Min ↔ inI64 ((a.natAbs : Int)) = false := by
    rw [inI64_false_iff]
    rw [inI64_iff] at ha
    unfold i64Min i64Max at *
    omega
  constructor
  · intro h
    have hne : a ≠ i64Min := fun e => by
      rw [hmin.mp e] at h
      cases h
    simp only [absScalar, hx, IntArith.new, absNew, checkedAbs, if_neg hne]
  · intro h
    simp only [absScalar, hx, IntArith.new, absNew, checkedAbs, if_pos (hmin.mpr h)]
    cases x.toFloatBits? with
    | none => exact Or.inl rfl
    | some f => exact Or.inr ⟨_, rfl⟩

/-- `i64::MIN | abs` continues in floating point: `|−2^63|` as a double. -/
theorem C15_abs_min (ops : FloatOps) :
    (mathFilters ops "abs".toList).map (fun f => f (intV i64Min) []) =
      some (.ok (fltV (fAbs (f64OfInt i64Min)))) := by
  rfl

/-- **Division identity.**  Integer operands, non-zero divisor: `modulo` always yields the integer
remainder; unless the quotient is the unrepresentable `MIN / -1`, `divided_by` yields the integer
quotient, and `a = q·b + r` with `|r| < |b|`; both stay within 64 bits. -/
theorem C15_divmod (ops : FloatOps) (x y : Sc) (a b : Int)
    (hx : x.toInteger? = some a) (hy : y.toInteger? = some b)
    (ha : inI64 a = true) (hb : b ≠ 0) :
    ∃ r : Int, binScalars .new ops .modulo x y = .ok (intV r) ∧ r.natAbs < b.natAbs ∧ inI64 r = true ∧
      (¬(a = i64Min ∧ b = -1) →
        ∃ q : Int, binScalars .new ops .dividedBy x y = .ok (intV q) ∧ inI64 q = true ∧ a = q * b + r) := by
  have hz : zeroGuard y = false := by
    rw [zeroGuard_int hy]
    exact beq_false_of_ne hb
  refine ⟨a.tmod b, binScalars_int_some hx hy hz (arithNew_modulo hb), tmod_natAbs_lt a b hb,
    tmod_inI64 a b ha, fun hmin => ?_⟩
  refine ⟨a.tdiv b, binScalars_int_some hx hy hz (arithNew_dividedBy hb hmin),
    tdiv_inI64 a b ha hmin hb, ?_⟩
  have := Int.tmod_add_tdiv_mul a b
  omega

/-- The one pair whose quotient does not fit: `MIN | divided_by: -1` is an error or a float (with
integer scalars: `MIN as f64 / -1.0`), and `MIN | modulo: -1` is exactly `0`. -/
theorem C15_divmod_min_neg_one (ops : FloatOps) :
    binFilter .new ops .dividedBy (intV i64Min) [intV (-1)] =
        .ok (fltV (ops.div (f64OfInt i64Min) (f64OfInt (-1)))) ∧
    binFilter .new ops .modulo (intV i64Min) [intV (-1)] = .ok (intV 0) :=
  ⟨rfl, rfl⟩

/-- **Division by zero is an error**, whatever the input is: integer `0`, a string spelling it,
or a float zero of either sign. -/
theorem C15_div_zero (ops : FloatOps) (op : MathOp) (hop : op = .dividedBy ∨ op = .modulo) (x y : Sc)
    (hy : y.toInteger? = some 0 ∨ (y.toInteger? = none ∧ ∃ f, y.toFloatBits? = some f ∧ fIsZero f = true)) :
    binScalars .new ops op x y = .err := by
  have hz : zeroGuard y = true := by
    rcases hy with h | ⟨h, f, hf, hf0⟩
    · rw [zeroGuard_int h]
      rfl
    · rw [zeroGuard_float h hf, hf0]
  rcases hop with rfl | rfl <;> exact binScalars_zero rfl hz

example : (Sc.str "0".toList).toInteger? = some 0 := by decide
example : fIsZero (2^63) = true ∧ fIsZero 0 = true := by decide

/-! ### never a crash -/

/-- The eleven filters, by name. -/
theorem C15_filter_table (ar : IntArith) (ops : FloatOps) :
    mathFiltersWith ar ops "abs".toList = some (absFilter ar) ∧
    mathFiltersWith ar ops "at_least".toList = some (binFilter ar ops .atLeast) ∧
    mathFiltersWith ar ops "at_most".toList = some (binFilter ar ops .atMost) ∧
    mathFiltersWith ar ops "plus".toList = some (binFilter ar ops .plus) ∧
    mathFiltersWith ar ops "minus".toList = some (binFilter ar ops .minus) ∧
    mathFiltersWith ar ops "times".toList = some (binFilter ar ops .times) ∧
    mathFiltersWith ar ops "divided_by".toList = some (binFilter ar ops .dividedBy) ∧
    mathFiltersWith ar ops "modulo".toList = some (binFilter ar ops .modulo) ∧
    mathFiltersWith ar ops "round".toList = some (roundFilter ops) ∧
    mathFiltersWith ar ops "ceil".toList = some (toI64Filter ceilQ) ∧
    mathFiltersWith ar ops "floor".toList = some (toI64Filter floorQ) := by
  refine ⟨?_, ?_, ?_, ?_, ?_, ?_, ?_, ?_, ?_, ?_, ?_⟩ <;> rfl

/-- **Never a crash**: no math filter of the repaired code reaches a panic site, for any input
value, any arguments and any behaviour of the external float operations. -/
theorem C15_never_panics (ops : FloatOps) (name : Str) (f : V → List V → Res V)
    (hf : mathFilters ops name = some f) (input : V) (args : List V) :
    (f input args).isPanic = false :=
  mathFiltersWith_ind .new ops (P := fun f => (f input args).isPanic = false)
    (absFilter_no_panic input args) (fun op => binFilter_no_panic ops op input args)
    (roundFilter_no_panic ops input args) (fun mode => toI64Filter_no_panic mode input args) hf

/-- The code at the pinned commit (D6) does crash (overflow-checks; a release build without them
returns the wrapped value instead, `MIN / -1` and `MIN % -1` abort in every build).  Replayed on the
implementation by the `corpus` cases of the harness. -/
theorem C15_int_exact_old_counterexample (ops : FloatOps) :
    binFilter .old ops .plus (intV i64Max) [intV 1] = .panic "attempt to add with overflow" ∧
    binFilter .old ops .minus (intV i64Min) [intV 1] = .panic "attempt to subtract with overflow" ∧
    binFilter .old ops .times (intV i64Max) [intV 2] = .panic "attempt to multiply with overflow" ∧
    absFilter .old (intV i64Min) [] = .panic "attempt to negate with overflow" := by
  refine ⟨?_, ?_, ?_, ?_⟩ <;> rfl

theorem C15_divmod_old_counterexample (ops : FloatOps) :
    binFilter .old ops .dividedBy (intV i64Min) [intV (-1)] = .panic "attempt to divide with overflow" ∧
    binFilter .old ops .modulo (intV i64Min) [intV (-1)] =
      .panic "attempt to calculate the remainder with overflow" :=
  ⟨rfl, rfl⟩

/-- Where no overflow occurs the repair changes nothing: old and new integer arithmetic agree. -/
theorem C15_repair_conservative (op : MathOp) (a b : Int) (r : Int)
    (h : arithOld op a b = .ok (some r)) : arithNew op a b = .ok (some r) := by
  cases op
  case plus | minus | times =>
    obtain ⟨hc, h⟩ | ⟨-, ⟨⟩⟩ := ite_eq_cases h
    exact (congrArg Res.ok (if_pos hc)).trans h
  case dividedBy =>
    obtain ⟨-, ⟨⟩⟩ | ⟨hb, h⟩ := ite_eq_cases h
    obtain ⟨-, ⟨⟩⟩ | ⟨hm, h⟩ := ite_eq_cases h
    rw [arithNew_dividedBy hb hm]
    exact h
  case modulo =>
    obtain ⟨-, ⟨⟩⟩ | ⟨hb, h⟩ := ite_eq_cases h
    obtain ⟨-, ⟨⟩⟩ | ⟨-, h⟩ := ite_eq_cases h
    rw [arithNew_modulo hb]
    exact h
  case atLeast | atMost => exact h

/-! ### float operands (glue) -/

/-- A float scalar never takes the integer path, and reads as itself. -/
theorem C15_float_operand (f : Fl) :
    (Sc.flt f).toInteger? = none ∧ (Sc.flt f).toFloatBits? = some f.bits := ⟨rfl, rfl⟩

/-- **Float path.**  If one operand does not read as an integer (e.g. it is a float) and both read
as floats, the result is the float operation on the two doubles — unless the zero-divisor guard of
divided_by / modulo fires. -/
theorem C15_float_glue (ops : FloatOps) (op : MathOp) (x y : Sc) (fx fy : Nat)
    (hint : x.toInteger? = none ∨ y.toInteger? = none)
    (hfx : x.toFloatBits? = some fx) (hfy : y.toFloatBits? = some fy)
    (hz : op.isDiv = true → zeroGuard y = false) :
    binScalars .new ops op x y = .ok (fltV (binFlt ops op fx fy)) := by
  have hg : (op.isDiv && zeroGuard y) = false := by
    cases h : op.isDiv with
    | false => rfl
    | true => exact hz h
  rw [binScalars_not_int hint hg, floatPath_some hfx hfy]

/-- which double operation each filter applies: the external IEEE `+ − × ÷ %`, and max/min. -/
theorem C15_float_ops (ops : FloatOps) (a b : Nat) :
    binFlt ops .plus a b = ops.add a b ∧ binFlt ops .minus a b = ops.sub a b ∧
    binFlt ops .times a b = ops.mul a b ∧ binFlt ops .dividedBy a b = ops.div a b ∧
    binFlt ops .modulo a b = ops.rem a b ∧ binFlt ops .atLeast a b = fMax a b ∧
    binFlt ops .atMost a b = fMin a b := ⟨rfl, rfl, rfl, rfl, rfl, rfl, rfl⟩

/-- at_least / at_most on doubles, for an input that is not NaN: one of the two, not below (above)
either of them.  A NaN input is replaced by the operand (`C15_float_minmax_nan`); that a NaN operand
is ignored holds in the model (`fLt _ NaN = false`) and is not stated. -/
theorem C15_float_minmax (a b : Nat) (ha : fIsNaN a = false) :
    (fMax a b = a ∨ fMax a b = b) ∧ fLt (fMax a b) a = false ∧ fLt (fMax a b) b = false ∧
    (fMin a b = a ∨ fMin a b = b) ∧ fLt a (fMin a b) = false ∧ fLt b (fMin a b) = false := by
  unfold fMax fMin
  simp only [ha, Bool.false_eq_true, if_false]
  obtain ⟨h1, h2, h3⟩ := pick_not_lt fLt_irrefl fLt_asymm a b
  exact ⟨h1, h2, h3, pick_not_lt (lt := fun x y => fLt y x) fLt_irrefl (fun x y => fLt_asymm y x) a b⟩

theorem C15_float_minmax_nan (a b : Nat) (ha : fIsNaN a = true) : fMax a b = b ∧ fMin a b = b := by
  simp [fMax, fMin, ha]

/-- abs of a double clears the sign bit. -/
theorem C15_float_abs (f : Fl) : absFilter .new (.sc (.flt f)) [] = .ok (fltV (f.bits % 2^63)) := rfl

/-! ### floor, ceil, round -/

/-- **floor**: for an operand that reads as a double `q/2^1074` within the 64-bit range the
result is the integer `r` with `r ≤ f < r + 1`. -/
theorem C15_floor (x : Sc) (b : Nat) (q : Int) (hni : x.toInteger? = none)
    (hx : x.toFloatBits? = some b) (hq : fv b = .fin q)
    (hlo : i64Min * fUnit ≤ q) (hhi : q ≤ i64Max * fUnit) :
    ∃ r : Int, toI64Filter floorQ (.sc x) [] = .ok (intV r) ∧ r * fUnit ≤ q ∧ q < (r + 1) * fUnit := by
  have hs : floorQ q * fUnit ≤ q ∧ q < (floorQ q + 1) * fUnit := floor_spec q fUnit fUnit_pos
  refine ⟨floorQ q, toI64Filter_near hni hx hq hlo hhi ?_ hs.2, hs⟩
  have := fUnit_pos
  rw [Int.sub_mul]
  omega

/-- **ceil**: `r − 1 < f ≤ r`. -/
theorem C15_ceil (x : Sc) (b : Nat) (q : Int) (hni : x.toInteger? = none)
    (hx : x.toFloatBits? = some b) (hq : fv b = .fin q)
    (hlo : i64Min * fUnit ≤ q) (hhi : q ≤ i64Max * fUnit) :
    ∃ r : Int, toI64Filter ceilQ (.sc x) [] = .ok (intV r) ∧ (r - 1) * fUnit < q ∧ q ≤ r * fUnit := by
  have hs : (ceilQ q - 1) * fUnit < q ∧ q ≤ ceilQ q * fUnit := ceil_spec q fUnit fUnit_pos
  refine ⟨ceilQ q, toI64Filter_near hni hx hq hlo hhi hs.1 ?_, hs⟩
  have := fUnit_pos
  rw [Int.add_mul]
  omega

/-- **round** (no argument, or a decimal-places argument `n ≤ 0`): the nearest integer,
`|f − r| ≤ 1/2`, and on a tie the one away from zero. -/
theorem C15_round (ops : FloatOps) (x : Sc) (b : Nat) (q : Int) (args : List V)
    (hargs : args = [] ∨ ∃ n : Int, n ≤ 0 ∧ args = [intV n]) (hni : x.toInteger? = none)
    (hx : x.toFloatBits? = some b) (hq : fv b = .fin q)
    (hlo : i64Min * fUnit ≤ q) (hhi : q ≤ i64Max * fUnit) :
    ∃ r : Int, roundFilter ops (.sc x) args = .ok (intV r) ∧
      -fUnit ≤ 2 * (q - r * fUnit) ∧ 2 * (q - r * fUnit) ≤ fUnit ∧
      (2 * (q - r * fUnit) = fUnit → q < 0) ∧ (2 * (q - r * fUnit) = -fUnit → 0 ≤ q) := by
  have hs := roundQ_spec q
  have hgo : ∀ n ≤ 0, roundGo ops (.sc x) n = .ok (intV (roundQ q)) := fun n hn => by
    -- `omega` below does without this fact, but is slower
    have := fUnit_pos
    rw [roundGo_nonpos ops _ hn]
    refine toI64Filter_near hni hx hq hlo hhi ?_ ?_
    · rw [Int.sub_mul]
      omega
    · rw [Int.add_mul]
      omega
  refine ⟨roundQ q, ?_, hs⟩
  rcases hargs with rfl | ⟨n, hn, rfl⟩
  · exact hgo 0 (Int.le_refl 0)
  · exact hgo n hn

/-- **Every float within the 64-bit range** (`−2^63 ≤ f < 2^63`) satisfies the range hypotheses
above (the largest double below `2^63` is `2^63 − 1024`), so for every such float operand floor,
ceil and round return the neighbouring integer in the documented direction. -/
theorem C15_floor_ceil_round (ops : FloatOps) (f : Fl) (q : Int) (hq : fv f.bits = .fin q)
    (hlo : -(2^63) * fUnit ≤ q) (hhi : q < 2^63 * fUnit) :
    (∃ r : Int, toI64Filter floorQ (.sc (.flt f)) [] = .ok (intV r) ∧ r * fUnit ≤ q ∧ q < (r + 1) * fUnit) ∧
    (∃ r : Int, toI64Filter ceilQ (.sc (.flt f)) [] = .ok (intV r) ∧ (r - 1) * fUnit < q ∧ q ≤ r * fUnit) ∧
    (∃ r : Int, roundFilter ops (.sc (.flt f)) [] = .ok (intV r) ∧
      -fUnit ≤ 2 * (q - r * fUnit) ∧ 2 * (q - r * fUnit) ≤ fUnit ∧
      (2 * (q - r * fUnit) = fUnit → q < 0) ∧ (2 * (q - r * fUnit) = -fUnit → 0 ≤ q)) := by
  have h1 : i64Min * fUnit ≤ q := hlo
  have h2 : q ≤ i64Max * fUnit := fin_le_i64Max f.bits q hq hhi
  exact ⟨C15_floor (.flt f) f.bits q rfl rfl hq h1 h2, C15_ceil (.flt f) f.bits q rfl rfl hq h1 h2,
    C15_round ops (.flt f) f.bits q [] (Or.inl rfl) rfl rfl hq h1 h2⟩

/-- **A whole number is its own floor, ceiling and rounding** — for every 64-bit integer and every
string that spells one, also beyond 2^53 where `f64` cannot represent it (after the `fix:` commit;
the filters used to convert every input to `f64` first: `9223372036854775806 | floor` printed
`9223372036854775807`). -/
theorem C15_whole_fixed (ops : FloatOps) (x : Sc) (i : Int) (hi : x.toInteger? = some i) :
    toI64Filter floorQ (.sc x) [] = .ok (intV i) ∧ toI64Filter ceilQ (.sc x) [] = .ok (intV i) ∧
    roundFilter ops (.sc x) [] = .ok (intV i) ∧
    (∀ n : Int, n ≤ 0 → roundFilter ops (.sc x) [intV n] = .ok (intV i)) := by
  have hgo : ∀ n ≤ 0, roundGo ops (.sc x) n = .ok (intV i) := fun n hn => by
    rw [roundGo_nonpos ops _ hn, toI64Filter_int hi]
  exact ⟨toI64Filter_int hi, toI64Filter_int hi, hgo 0 (Int.le_refl 0), hgo⟩

example (ops : FloatOps) : toI64Filter floorQ (.sc (.int 9223372036854775806)) [] = .ok (intV 9223372036854775806) ∧
    roundFilter ops (.sc (.str "9007199254740993".toList)) [] = .ok (intV 9007199254740993) := by
  constructor
  · rfl
  · exact (C15_whole_fixed ops _ 9007199254740993 (by decide)).2.2.1

/-- The cast `as i64` that ends `floor`, `ceil` and `round` (`fToI64`; the statement holds for any
rounding mode and is not about `round` in particular): NaN becomes 0, `+∞` becomes `i64::MAX`, `−∞`
becomes `i64::MIN`, and every result lies within 64 bits — a value, never a crash. -/
theorem C15_round_saturates (mode : Int → Int) (b : Nat) :
    (fv b = .nan → fToI64 mode b = 0) ∧ (fv b = .pinf → fToI64 mode b = i64Max) ∧
    (fv b = .ninf → fToI64 mode b = i64Min) ∧ inI64 (fToI64 mode b) = true := by
  unfold fToI64
  refine ⟨fun h => by rw [h], fun h => by rw [h], fun h => by rw [h], ?_⟩
  split
  · decide
  · decide
  · decide
  · unfold satI64
    rw [inI64_iff]
    split
    · decide
    · split
      · decide
      · omega

example : fv 0x4004000000000000 = .fin (5 * 2^1073) := by decide +kernel   -- 2.5
example : fToI64 roundQ 0x4004000000000000 = 3 ∧ fToI64 roundQ 0xC004000000000000 = -3 ∧
    fToI64 floorQ 0xC004000000000000 = -3 ∧ fToI64 ceilQ 0xC004000000000000 = -2 := by decide +kernel

/-- What `C15_whole_fixed` rules out, seen on the cast alone (`fToI64 ∘ f64OfInt`, not the filter):
had an integer input gone through `f64` first, as it did before the `fix:` commit, it would lose
precision beyond 2^53, and `MAX − 1 | floor` would saturate to `MAX`. -/
example : fToI64 floorQ (f64OfInt (2^53 + 1)) = 2^53 ∧ fToI64 floorQ (f64OfInt (i64Max - 1)) = i64Max := by
  decide +kernel

/-- `i64 as f64` of this model agrees with the conversion used by the comparison model
(`FV.ofI64`, Value.lean) on the boundary values. -/
example : [0, 1, -1, 7, 2^31, -(2^62), i64Max - 1, i64Max, i64Min, i64Min + 1, 2^53 + 1, -(2^53) - 1, 3037000499].all
    (fun x => fv (f64OfInt x) == FV.ofI64 x) = true := by decide +kernel

/-! ### numeric strings -/

/-- **Numeric strings behave like the numbers they spell** (integers): the decimal spelling of a
64-bit integer reads, through `parse::<i64>` and `parse::<f64>`, as that integer and as its
conversion to double. -/
theorem C15_numeric_strings (n : Int) (hn : inI64 n = true) :
    (Sc.str (intRepr n)).toInteger? = some n ∧
    (Sc.str (intRepr n)).toFloatBits? = (Sc.int n).toFloatBits? :=
  ⟨parseI64_intRepr n hn, parseF64_intRepr n⟩

/-- The filters see a scalar only through its two numeric readings: operands with the same
readings give the same result (binary filters). -/
theorem C15_coercion_congr (ar : IntArith) (ops : FloatOps) (op : MathOp) (x x' y y' : Sc)
    (hxi : x.toInteger? = x'.toInteger?) (hxf : x.toFloatBits? = x'.toFloatBits?)
    (hyi : y.toInteger? = y'.toInteger?) (hyf : y.toFloatBits? = y'.toFloatBits?) :
    binFilter ar ops op (.sc x) [.sc y] = binFilter ar ops op (.sc x') [.sc y'] := by
  unfold binFilter binScalars zeroGuard floatPath
  simp only [V.asScalar?]
  rw [hxi, hxf, hyi, hyf]

/-- … and the unary ones (`round` also with its decimal-places argument). -/
theorem C15_coercion_congr_unary (ar : IntArith) (ops : FloatOps) (x x' : Sc) (args : List V)
    (hxi : x.toInteger? = x'.toInteger?) (hxf : x.toFloatBits? = x'.toFloatBits?) (mode : Int → Int) :
    absFilter ar (.sc x) args = absFilter ar (.sc x') args ∧
    toI64Filter mode (.sc x) args = toI64Filter mode (.sc x') args ∧
    roundFilter ops (.sc x) args = roundFilter ops (.sc x') args := by
  simp only [absFilter, absScalar, toI64Filter, roundFilter, roundGo, V.asScalar?, hxi, hxf, and_self]

/-- Hence e.g. `"7" | plus: "-3"` is `7 | plus: -3`, for all 64-bit integers and every binary filter. -/
theorem C15_numeric_strings_behave (ar : IntArith) (ops : FloatOps) (op : MathOp) (n m : Int)
    (hn : inI64 n = true) (hm : inI64 m = true) :
    binFilter ar ops op (.sc (.str (intRepr n))) [.sc (.str (intRepr m))] =
      binFilter ar ops op (intV n) [intV m] := by
  have h1 := C15_numeric_strings n hn
  have h2 := C15_numeric_strings m hm
  exact C15_coercion_congr ar ops op _ _ _ _ h1.1 h1.2 h2.1 h2.2

/-- Float spellings (partial): a string that `parse::<i64>` rejects and `parse::<f64>` reads as the
double `b` behaves, in every binary filter and on either side, exactly like the float `b`.
Missing for the full statement: that `parseF64` (correctly rounded decimal → binary64, validated
against the implementation on every string case) returns the double a given *printer* spelled —
float printing is external (DESIGN section 4). -/
theorem C15_numeric_strings_float_partial (ar : IntArith) (ops : FloatOps) (op : MathOp) (s : Str) (b : Nat) (z : Sc)
    (hi : parseI64 s = none) (hf : parseF64 s = some b) :
    binFilter ar ops op (.sc (.str s)) [.sc z] = binFilter ar ops op (.sc (.flt { bits := b })) [.sc z] ∧
    binFilter ar ops op (.sc z) [.sc (.str s)] = binFilter ar ops op (.sc z) [.sc (.flt { bits := b })] :=
  ⟨C15_coercion_congr ar ops op _ _ _ _ hi hf rfl rfl, C15_coercion_congr ar ops op _ _ _ _ rfl rfl hi hf⟩

example : parseI64 "2.5".toList = none ∧ parseF64 "2.5".toList = some 0x4004000000000000 := by decide

example : (Sc.str "-42".toList).toInteger? = some (-42) := by decide
example : parseF64 "2.5".toList = some 0x4004000000000000 := by decide
example : parseF64 "-1e-2x".toList = none ∧ parseF64 "1e".toList = none ∧ parseF64 ".".toList = none := by decide

/-- **An explicit `+` does not change the number a string spells**: `"+N"` and `"N"` denote the same
integer for every N in range (so `"+7" | divided_by: 2` is integer arithmetic like `7 | divided_by: 2`). -/
theorem C15_plus_spelling (n : Nat) (h : inI64 n = true) :
    (Sc.str ('+' :: natDigits n)).toInteger? = some (n : Int) ∧
    (Sc.str (natDigits n)).toInteger? = some (n : Int) := by
  have hp := parseI64_digits _ (natDigits_ne_nil n) (natDigits_isDigit n)
  simp only [ofDigitChars_natDigits, h, if_true] at hp
  exact ⟨hp.2.1, hp.1⟩

end Liquid.C15
