/-
  C11 helper lemmas: the canonical representative (`canon`) keeps what `value_eq` / `value_cmp`
  look at; a deep permutation (`VPerm`) keeps the canonical representative.
-/
import LiquidModel.Lemmas.C11Cmp
namespace Liquid.C11L
open Liquid Liquid.C11

theorem canon_arr (xs : List V) : canon (.arr xs) = .arr (xs.map canon) := by simp [canon, canonL_eq]
theorem canon_obj (xs : Obj) : canon (.obj xs) = .obj (sortK (mapV canon xs)) := by simp [canon, canonO_eq]

theorem sortK_canon (xs : Obj) : sortK (sortK (mapV canon xs)) = mapV canon (sortK xs) := by
  rw [sortK_idem, sortK_mapV]

theorem wfv_canon : ∀ a : V, WFV (canon a) = true ↔ WFV a = true := by
  intro a
  induction a using valueInduct with
  | arr xs ih =>
    rw [canon_arr, wfv_arr, wfv_arr, List.forall_mem_map]
    exact forall₂_congr fun x hx => ih x hx
  | obj kvs ih =>
    rw [canon_obj, wfv_obj, wfv_obj, (keysOf_sortK _).nodup_iff, keysOf_mapV]
    refine and_congr_right fun _ => ?_
    simp only [mem_sortK, mapV, List.forall_mem_map]
    exact forall₂_congr fun e he => ih e he
  | _ => exact Iff.rfl

theorem isEmpty_eq_of_length {α β : Type} {l : List α} {l' : List β} (h : l.length = l'.length) :
    l.isEmpty = l'.isEmpty := by
  cases l <;> cases l' <;> first | rfl | cases h

/-- `query_state` looks at a container only to see whether it is empty -/
theorem canon_queryState (a : V) (s : St) : (canon a).queryState s = a.queryState s := by
  cases a with
  | arr xs =>
    have : (xs.map canon).isEmpty = xs.isEmpty := isEmpty_eq_of_length (List.length_map canon)
    rw [canon_arr]; cases s <;> simp only [V.queryState, this]
  | obj xs =>
    have : (sortK (mapV canon xs)).isEmpty = xs.isEmpty :=
      isEmpty_eq_of_length ((length_sortK _).trans (List.length_map _))
    rw [canon_obj]; cases s <;> simp only [V.queryState, this]
  | _ => rfl

theorem flat_canon {a b : V} (h : flat a b = true) : flat (canon a) (canon b) = true := by
  cases a <;> cases b <;> exact h

theorem valueEqFlat_canon (a b : V) (h : flat a b = true) :
    valueEqFlat (canon a) (canon b) = valueEqFlat a b := by
  -- a scalar or marker is its own canon; a container facing nil, a scalar or the other kind of
  -- container gives an answer that does not look inside it
  cases a <;> cases b <;> try rfl
  -- container facing a marker: `query_state`; two arrays / two objects: excluded
  all_goals first
    | exact canon_queryState (.arr _) _
    | exact canon_queryState (.obj _) _
    | exact absurd h Bool.false_ne_true

theorem valueEq_canon : ∀ a b : V, WFV a = true → WFV b = true → valueEq (canon a) (canon b) = valueEq a b := by
  refine pairInduct ?_ ?_ ?_
  · intro xs ys ih hwa hwb
    rw [canon_arr, canon_arr, Bool.eq_iff_iff, valueEq_arr_iff, valueEq_arr_iff]
    exact forall₂_map_congr canon canon xs ys fun x hx y hy => by
      rw [ih x hx y hy (every_arr_mem hwa hx) (every_arr_mem hwb hy)]
  · intro xs ys ih hwa hwb
    have hca := (wfv_canon _).2 hwa
    have hcb := (wfv_canon _).2 hwb
    rw [canon_obj] at hca hcb
    rw [canon_obj, canon_obj, Bool.eq_iff_iff, valueEq_obj_iff (wfv_obj_keys hca) (wfv_obj_keys hcb),
      valueEq_obj_iff (wfv_obj_keys hwa) (wfv_obj_keys hwb), sortK_canon, sortK_canon]
    refine forall₂_map_congr _ _ _ _ fun e he e' he' => and_congr Iff.rfl ?_
    have he := (mem_sortK _ _).1 he
    have he' := (mem_sortK _ _).1 he'
    rw [(ih e he e' he').2 (every_obj_mem hwb he') (every_obj_mem hwa he)]
  · intro a b h _ _
    rw [valueEq_flat h, valueEq_flat (flat_canon h)]; exact valueEqFlat_canon a b h

theorem cmpFlat_canon (a b : V) : cmpFlat (canon a) (canon b) = cmpFlat a b := by
  cases a <;> cases b <;> rfl

theorem valueCmp_canon : ∀ a b : V, valueCmp (canon a) (canon b) = valueCmp a b := by
  refine pairInduct ?_ ?_ ?_
  · intro xs ys ih
    rw [canon_arr, canon_arr, valueCmp_arr, valueCmp_arr]; exact lexBy_map canon canon xs ys ih
  · intro xs ys ih
    rw [canon_obj, canon_obj, valueCmp_obj, valueCmp_obj, sortK_canon, sortK_canon]
    refine lexBy_map _ _ _ _ fun e he e' he' => ?_
    rw [entryCmp, entryCmp, (ih e ((mem_sortK _ _).1 he) e' ((mem_sortK _ _).1 he')).1]
  · intro a b h
    rw [valueCmp_flat h, valueCmp_flat (flat_canon h)]; exact cmpFlat_canon a b

/-- `VPerm a a'`: `a'` is `a` with the entry lists of any of its objects (at any depth) permuted. -/
inductive VPerm : V → V → Prop
  | refl (a : V) : VPerm a a
  | trans {a b c : V} : VPerm a b → VPerm b c → VPerm a c
  | arrCons {x y : V} {xs ys : List V} : VPerm x y → VPerm (.arr xs) (.arr ys) → VPerm (.arr (x :: xs)) (.arr (y :: ys))
  | objPerm {xs ys : Obj} : xs.Perm ys → VPerm (.obj xs) (.obj ys)
  | objCons {k : Str} {x y : V} {xs ys : Obj} :
      VPerm x y → VPerm (.obj xs) (.obj ys) → VPerm (.obj ((k, x) :: xs)) (.obj ((k, y) :: ys))

theorem VPerm.canon_eq {a a' : V} (h : VPerm a a') : WFV a = true → canon a = canon a' := by
  induction h with
  | refl a => exact fun _ => rfl
  | @trans a b c _ _ ih1 ih2 =>
    intro hw
    have c1 := ih1 hw
    exact c1.trans (ih2 ((wfv_canon b).1 (c1 ▸ (wfv_canon a).2 hw)))
  | arrCons _ _ ihx ihxs =>
    intro hw
    rw [wfv_arr] at hw
    have c2 := ihxs ((wfv_arr _).2 fun x hx => hw x (.tail _ hx))
    rw [canon_arr, canon_arr, V.arr.injEq] at c2
    rw [canon_arr, canon_arr, List.map_cons, List.map_cons, ihx (hw _ (.head _)), c2]
  | @objPerm xs ys hp =>
    intro hw
    rw [canon_obj, canon_obj]
    exact congrArg V.obj (sortK_eq_of_perm (hp.map _) ((keysOf_mapV canon xs).symm ▸ wfv_obj_keys hw))
  | @objCons k x y xs ys _ _ ihx ihxs =>
    intro hw
    rw [wfv_obj] at hw
    have c2 := ihxs ((wfv_obj _).2 ⟨(List.nodup_cons.1 hw.1).2, fun e he => hw.2 e (.tail _ he)⟩)
    rw [canon_obj, canon_obj, V.obj.injEq] at c2
    rw [canon_obj, canon_obj, mapV, mapV, List.map_cons, List.map_cons, sortK, sortK,
      ihx (hw.2 _ (.head _)), ← mapV, ← mapV, c2]

theorem VPerm.wfv {a a' : V} (h : VPerm a a') (hw : WFV a = true) : WFV a' = true :=
  (wfv_canon a').1 (h.canon_eq hw ▸ (wfv_canon a).2 hw)

end Liquid.C11L
