/-
  Helper lemmas for C16.  `escape_once` and the two reference scanners of the specification
  (`unescape`, `inLang`) read a string the same way — plain character, `&` that starts no entity,
  whole entity — so each gets the same three equations, and proofs go by `once_induction` along
  that reading; `escape` replaces character by character.  `strip_html`: every pass returns a
  subsequence, and the last one leaves no `>` behind a `<`.  UTF-8: `Utf8Seq bs n` relates one byte
  sequence to its scalar value; decoder and encoder each have one equation in terms of it.
  Percent-encoding: the round trip byte by byte, and the 256-entry table read once.
-/
import LiquidModel.Spec.C16
namespace Liquid.C16
open Liquid Liquid.Html Liquid.Url

/-! ### escape / escape_once -/

theorem escGo_skip (once : Bool) (p t : Str) : escGo once p.length (p ++ t) = p ++ escGo once 0 t := by
  induction p with
  | nil => simp
  | cons c p ih => simp [escGo, ih]

theorem unescGo_skip (p t : Str) : unescGo p.length (p ++ t) = unescGo 0 t := by
  induction p with
  | nil => simp
  | cons c p ih => simp [unescGo, ih]

theorem langGo_skip (p t : Str) : langGo p.length (p ++ t) = langGo 0 t := by
  induction p with
  | nil => simp
  | cons c p ih => simp [langGo, ih]

theorem entityAt_some {r : Str} {ch : Char} {n : Nat} (h : entityAt r = some (ch, n)) :
    ∃ tail r', r = tail ++ r' ∧ n = tail.length ∧ (ch, '&' :: tail) ∈ entities := by
  -- one test of the chain: it succeeds and its row is the answer, or the answer comes from the rest
  -- (`split at h` would do the same and simplify the whole remaining chain each time)
  have row : ∀ {tail : Str} {c : Char} {rest : Option (Char × Nat)},
      (if tail.isPrefixOf r then some (c, tail.length) else rest) = some (ch, n) → (c, '&' :: tail) ∈ entities →
      (∃ tail r', r = tail ++ r' ∧ n = tail.length ∧ (ch, '&' :: tail) ∈ entities) ∨ rest = some (ch, n) := by
    intro tail c rest e hm
    by_cases hp : tail.isPrefixOf r = true
    · rw [if_pos hp] at e
      obtain ⟨r', rfl⟩ := List.isPrefixOf_iff_prefix.mp hp
      cases e
      exact .inl ⟨tail, r', rfl, rfl, hm⟩
    · rw [if_neg hp] at e
      exact .inr e
  unfold entityAt at h
  obtain h' | h := row h (by decide); · exact h'
  obtain h' | h := row h (by decide); · exact h'
  obtain h' | h := row h (by decide); · exact h'
  obtain h' | h := row h (by decide); · exact h'
  obtain h' | h := row h (by decide); · exact h'
  cases h

theorem entityAt_of_mem {ch : Char} {tail : Str} (h : (ch, '&' :: tail) ∈ entities) (t : Str) :
    entityAt (tail ++ t) = some (ch, tail.length) := by
  simp only [entities, List.mem_cons, Prod.mk.injEq, List.cons.injEq, true_and, List.mem_nil_iff, or_false] at h
  rcases h with ⟨rfl, rfl⟩ | ⟨rfl, rfl⟩ | ⟨rfl, rfl⟩ | ⟨rfl, rfl⟩ | ⟨rfl, rfl⟩ <;> simp [entityAt]

theorem mem_entityStrs {e : Str} (h : e ∈ entityStrs) : ∃ ch tail, e = '&' :: tail ∧ (ch, '&' :: tail) ∈ entities := by
  obtain ⟨⟨ch, e⟩, hm, rfl⟩ := List.mem_map.mp h
  have amp : ∀ p ∈ entities, p.2 = '&' :: p.2.tail := by decide
  exact ⟨ch, e.tail, amp _ hm, amp _ hm ▸ hm⟩

theorem nrEscaped_eq (r : Str) : nrEscaped r = match entityAt r with | some (_, n) => n | none => 0 := by
  -- the same chain of five tests in both: the `match` goes through the `if`s to the six answers
  unfold nrEscaped entityAt tailLt tailGt tail39 tailQuot tailAmp
  simp only [apply_ite (fun o : Option (Char × Nat) => match o with | some (_, n) => n | none => 0)]

theorem escChar_cases (c : Char) :
    (isSpecial c = false ∧ escChar c = [c]) ∨ ∃ tail, escChar c = '&' :: tail ∧ (c, '&' :: tail) ∈ entities := by
  unfold escChar
  by_cases h1 : c = '<'; · subst h1; exact .inr ⟨tailLt, rfl, by decide⟩
  by_cases h2 : c = '>'; · subst h2; exact .inr ⟨tailGt, rfl, by decide⟩
  by_cases h3 : c = '\''; · subst h3; exact .inr ⟨tail39, rfl, by decide⟩
  by_cases h4 : c = '"'; · subst h4; exact .inr ⟨tailQuot, rfl, by decide⟩
  by_cases h5 : c = '&'; · subst h5; exact .inr ⟨tailAmp, rfl, by decide⟩
  exact .inl ⟨by simp [isSpecial, *], by rw [if_neg h1, if_neg h2, if_neg h3, if_neg h4, if_neg h5]⟩

theorem ne_amp_of_not_special {c : Char} (h : isSpecial c = false) : c ≠ '&' := by
  rintro rfl; exact absurd h (by decide)

theorem escGo_zero_cons (once : Bool) (c : Char) (r : Str) :
    escGo once 0 (c :: r) =
      if c = '&' ∧ once = true ∧ nrEscaped r ≠ 0 then '&' :: escGo once (nrEscaped r) r
      else escChar c ++ escGo once 0 r := by
  rw [escGo, escChar]
  by_cases h1 : c = '<'; · subst h1; rfl
  by_cases h2 : c = '>'; · subst h2; rfl
  by_cases h3 : c = '\''; · subst h3; rfl
  by_cases h4 : c = '"'; · subst h4; rfl
  rw [if_neg h1, if_neg h2, if_neg h3, if_neg h4, if_neg h1, if_neg h2, if_neg h3, if_neg h4]
  by_cases h5 : c = '&'
  · subst h5; cases once <;> simp
  · rw [if_neg h5, if_neg h5, if_neg (fun h => h5 h.1)]; rfl

theorem escape_cons (c : Char) (r : Str) : escape (c :: r) = escChar c ++ escape r := by
  rw [escape, escGo_zero_cons, if_neg (by simp)]; rfl

theorem once_chr (c : Char) (r : Str) (hc : c ≠ '&') : escapeOnce (c :: r) = escChar c ++ escapeOnce r := by
  rw [escapeOnce, escGo_zero_cons, if_neg (fun h => hc h.1)]; rfl

theorem once_amp (r : Str) (h : entityAt r = none) : escapeOnce ('&' :: r) = entAmp ++ escapeOnce r := by
  rw [escapeOnce, escGo_zero_cons, if_neg (by simp [nrEscaped_eq, h])]; rfl

theorem once_ent {ch : Char} {tail : Str} (hm : (ch, '&' :: tail) ∈ entities) (t : Str) :
    escapeOnce ('&' :: tail ++ t) = '&' :: tail ++ escapeOnce t := by
  have hn : nrEscaped (tail ++ t) = tail.length := by rw [nrEscaped_eq, entityAt_of_mem hm]
  have hpos : tail.length ≠ 0 := by
    have : ∀ p ∈ entities, 1 < p.2.length := by decide
    exact Nat.ne_of_gt (Nat.lt_of_succ_lt_succ (this _ hm))
  rw [escapeOnce, List.cons_append, escGo_zero_cons, if_pos ⟨rfl, rfl, by rw [hn]; exact hpos⟩, hn, escGo_skip]; rfl

theorem unesc_chr (c : Char) (r : Str) (hc : c ≠ '&') : unescape (c :: r) = c :: unescape r := by
  simp [unescape, unescGo, hc]

theorem unesc_amp (r : Str) (h : entityAt r = none) : unescape ('&' :: r) = '&' :: unescape r := by
  simp [unescape, unescGo, h]

theorem unesc_ent {ch : Char} {tail : Str} (hm : (ch, '&' :: tail) ∈ entities) (t : Str) :
    unescape ('&' :: tail ++ t) = ch :: unescape t := by
  simp [unescape, unescGo, entityAt_of_mem hm, unescGo_skip]

theorem lang_chr (c : Char) (r : Str) (hc : c ≠ '&') : inLang (c :: r) = (!isSpecial c && inLang r) := by
  cases h : isSpecial c <;> simp [inLang, langGo, hc, h]

theorem lang_amp (r : Str) (h : entityAt r = none) : inLang ('&' :: r) = false := by
  simp [inLang, langGo, h]

theorem lang_ent {ch : Char} {tail : Str} (hm : (ch, '&' :: tail) ∈ entities) (t : Str) :
    inLang ('&' :: tail ++ t) = inLang t := by
  simp [inLang, langGo, entityAt_of_mem hm, langGo_skip]

theorem once_induction {P : Str → Prop} (nil : P [])
    (chr : ∀ c r, c ≠ '&' → P r → P (c :: r))
    (amp : ∀ r, entityAt r = none → P r → P ('&' :: r))
    (ent : ∀ ch tail r', (ch, '&' :: tail) ∈ entities → P r' → P ('&' :: tail ++ r')) :
    ∀ s, P s
  | [] => nil
  | c :: r =>
    if hc : c = '&' then
      match he : entityAt r with
      | none => hc ▸ amp r he (once_induction nil chr amp ent r)
      | some (ch, k) =>
        have ⟨tail, r', hr, _, hm⟩ := entityAt_some he
        hc ▸ hr ▸ ent ch tail r' hm (once_induction nil chr amp ent r')
    else chr c r hc (once_induction nil chr amp ent r)
termination_by s => s.length
decreasing_by
  all_goals simp only [List.length_cons, Nat.lt_succ_self]
  subst hr; simp only [List.length_append]; omega

theorem unescape_escChar (c : Char) (t : Str) : unescape (escChar c ++ t) = c :: unescape t := by
  rcases escChar_cases c with ⟨hs, h⟩ | ⟨tail, h, hm⟩
  · rw [h]; exact unesc_chr c t (ne_amp_of_not_special hs)
  · rw [h]; exact unesc_ent hm t

theorem escChar_safeEnt (c : Char) (t : Str) (ht : SafeEnt t) : SafeEnt (escChar c ++ t) := by
  rcases escChar_cases c with ⟨hs, h⟩ | ⟨tail, h, hm⟩
  · rw [h]; exact .safe c t hs ht
  · rw [h]; exact .ent _ t (List.mem_map.mpr ⟨_, hm, rfl⟩) ht

theorem once_escChar (c : Char) (t : Str) : escapeOnce (escChar c ++ t) = escChar c ++ escapeOnce t := by
  rcases escChar_cases c with ⟨hs, h⟩ | ⟨tail, h, hm⟩
  · rw [← once_chr c t (ne_amp_of_not_special hs), h]; rfl
  · rw [h]; exact once_ent hm t

theorem isPrefixOf_append_amp (tail : Str) (h : '&' ∉ tail) (p y : Str) :
    tail.isPrefixOf (p ++ '&' :: y) = tail.isPrefixOf p := by
  induction tail generalizing p with
  | nil => simp
  | cons a tl ih =>
    simp only [List.mem_cons, not_or] at h
    cases p with
    | nil =>
      have : (a == '&') = false := by simpa using fun h' => h.1 h'.symm
      simp [List.isPrefixOf, this]
    | cons b p' => simp [List.isPrefixOf, ih h.2 p']

theorem entityAt_append_amp (p y : Str) : entityAt (p ++ '&' :: y) = entityAt p := by
  unfold entityAt
  rw [isPrefixOf_append_amp _ (by decide), isPrefixOf_append_amp _ (by decide), isPrefixOf_append_amp _ (by decide),
    isPrefixOf_append_amp _ (by decide), isPrefixOf_append_amp _ (by decide)]

/-- the look-ahead of `escape_once` never reaches across an `&` (no entity tail holds one): what
stands before an `&` is treated as if alone -/
theorem once_append_amp (p y : Str) : escapeOnce (p ++ '&' :: y) = escapeOnce p ++ escapeOnce ('&' :: y) := by
  induction p using once_induction with
  | nil => rfl
  | chr c r hc ih => rw [List.cons_append, once_chr c _ hc, once_chr c r hc, ih, List.append_assoc]
  | amp r h ih =>
    rw [List.cons_append, once_amp _ (by rw [entityAt_append_amp]; exact h), once_amp r h, ih, List.append_assoc]
  | ent ch tail r' hm ih => rw [List.append_assoc, once_ent hm, once_ent hm, ih, List.append_assoc]

/-! ### strip_html -/

theorem stripGo_sublist (opn cls : Str) (s : Str) : ∀ k, (stripGo opn cls k s).Sublist s := by
  induction s with
  | nil => intro k; simp [stripGo]
  | cons c r ih =>
    intro k
    cases k with
    | succ k => simp only [stripGo]; exact (ih k).cons c
    | zero =>
      simp only [stripGo]
      split
      · exact (ih _).cons c
      · exact (ih 0).cons_cons c

theorem ciEq_lt (c : Char) : ciEq '<' c = (c == '<') := by
  simp [ciEq, isAsciiLower]

theorem ciEq_gt (c : Char) : ciEq '>' c = (c == '>') := by
  simp [ciEq, isAsciiLower]

theorem findCloser_gt_none (r : Str) (h : findCloser tagClose r = none) : '>' ∉ r := by
  induction r with
  | nil => simp
  | cons c r ih =>
    simp only [findCloser, tagClose, ciPrefix, ciEq_gt, Bool.and_true] at h
    split at h
    · cases h
    next hc =>
      split at h
      · cases h
      next hn =>
        simp only [List.mem_cons, not_or]
        exact ⟨fun h' => hc (by simp [← h']), ih (by simpa [tagClose] using hn)⟩

theorem stripTags_no_tag (s : Str) : ∀ k, hasTag (stripGo tagOpen tagClose k s) = false := by
  induction s with
  | nil => intro k; simp [stripGo, hasTag]
  | cons c r ih =>
    intro k
    cases k with
    | succ k => simp only [stripGo]; exact ih k
    | zero =>
      simp only [stripGo]
      split
      · exact ih _
      next hm =>
        simp only [hasTag]
        split
        next hc =>
          subst hc
          -- no match at this `<`: no `>` follows it, and the pass returns a subsequence of what follows
          have hf : findCloser tagClose r = none := by
            simp only [matchAt, tagOpen, ciPrefix, ciEq_lt, beq_self_eq_true, Bool.and_true, if_true,
              List.length_cons, List.length_nil, List.drop_succ_cons, List.drop_zero] at hm
            split at hm
            · cases hm
            · assumption
          have hn := findCloser_gt_none r hf
          have : '>' ∉ stripGo tagOpen tagClose 0 r := fun h => hn ((stripGo_sublist _ _ r 0).subset h)
          simpa using this
        · exact ih 0

/-- every opener starts with `<`: without a `<` in the text no pass matches anywhere -/
theorem stripGo_no_lt (o cls : Str) (s : Str) (h : '<' ∉ s) : stripGo ('<' :: o) cls 0 s = s := by
  induction s with
  | nil => rfl
  | cons c r ih =>
    simp only [List.mem_cons, not_or] at h
    have hc : (c == '<') = false := by simpa using fun h' => h.1 h'.symm
    simp [stripGo, matchAt, ciPrefix, ciEq_lt, hc, ih h.2]

/-! ### UTF-8 -/

theorem char_valid (c : Char) : c.toNat < 0xD800 ∨ (0xDFFF < c.toNat ∧ c.toNat < 0x110000) := c.valid

theorem toNat_ofNat_valid (n : Nat) (h : n < 0xD800 ∨ (0xDFFF < n ∧ n < 0x110000)) : (Char.ofNat n).toNat = n := by
  have h' : n.isValidChar := h
  simp [Char.ofNat, h', Char.toNat, Char.ofNatAux]

theorem utf8Enc1_lt (c : Char) : ∀ b ∈ utf8Enc1 c, b < 256 := by
  have hv := char_valid c
  intro b hb
  unfold utf8Enc1 at hb
  dsimp only at hb
  split at hb
  · simp at hb; omega
  split at hb
  · simp at hb; omega
  split at hb
  · simp at hb; omega
  · simp at hb; omega

theorem utf8Enc_lt (s : Str) : ∀ b ∈ utf8Enc s, b < 256 :=
  List.forall_mem_flatMap.mpr fun c _ => utf8Enc1_lt c

/-- the second-byte condition of three-byte sequences (no overlong forms, no surrogates) -/
def ok3 (b0 b1 : Nat) : Prop :=
  (b0 = 0xE0 ∧ 0xA0 ≤ b1 ∧ b1 ≤ 0xBF) ∨ (0xE1 ≤ b0 ∧ b0 ≤ 0xEC ∧ 0x80 ≤ b1 ∧ b1 ≤ 0xBF) ∨
  (b0 = 0xED ∧ 0x80 ≤ b1 ∧ b1 ≤ 0x9F) ∨ (0xEE ≤ b0 ∧ b0 ≤ 0xEF ∧ 0x80 ≤ b1 ∧ b1 ≤ 0xBF)

/-- the second-byte condition of four-byte sequences (no overlong forms, nothing above U+10FFFF) -/
def ok4 (b0 b1 : Nat) : Prop :=
  (b0 = 0xF0 ∧ 0x90 ≤ b1 ∧ b1 ≤ 0xBF) ∨ (0xF1 ≤ b0 ∧ b0 ≤ 0xF3 ∧ 0x80 ≤ b1 ∧ b1 ≤ 0xBF) ∨
  (b0 = 0xF4 ∧ 0x80 ≤ b1 ∧ b1 ≤ 0x8F)

/-- `bs` is one UTF-8 sequence and `n` its scalar value, as the decoder sees it: the conditions of
its branch for that many bytes, and the value it computes -/
def Utf8Seq : List Nat → Nat → Prop
  | [b0], n => b0 < 0x80 ∧ b0 = n
  | [b0, b1], n => (0xC2 ≤ b0 ∧ b0 ≤ 0xDF) ∧ isCont b1 = true ∧ (b0 - 0xC0) * 64 + (b1 - 0x80) = n
  | [b0, b1, b2], n =>
    (0xE0 ≤ b0 ∧ b0 ≤ 0xEF) ∧ ok3 b0 b1 ∧ isCont b2 = true ∧
      (b0 - 0xE0) * 4096 + (b1 - 0x80) * 64 + (b2 - 0x80) = n
  | [b0, b1, b2, b3], n =>
    (0xF0 ≤ b0 ∧ b0 ≤ 0xF4) ∧ ok4 b0 b1 ∧ isCont b2 = true ∧ isCont b3 = true ∧
      (b0 - 0xF0) * 262144 + (b1 - 0x80) * 4096 + (b2 - 0x80) * 64 + (b3 - 0x80) = n
  | _, _ => False

theorem utf8Dec_seq : ∀ {bs : List Nat} {n : Nat}, Utf8Seq bs n → ∀ rest,
    utf8Dec (bs ++ rest) = (utf8Dec rest).map (Char.ofNat n :: ·)
  | [b0], _, ⟨h0, rfl⟩, rest => by
    show utf8Dec (b0 :: rest) = _
    rw [utf8Dec.eq_def]; dsimp only
    rw [if_pos h0]; cases utf8Dec rest <;> rfl
  | [b0, b1], _, ⟨h0, h1, rfl⟩, rest => by
    show utf8Dec (b0 :: b1 :: rest) = _
    rw [utf8Dec.eq_def]; dsimp only
    rw [if_neg (by omega), if_pos h0, if_pos h1]; cases utf8Dec rest <;> rfl
  | [b0, b1, b2], _, ⟨h0, h1, h2, rfl⟩, rest => by
    show utf8Dec (b0 :: b1 :: b2 :: rest) = _
    rw [utf8Dec.eq_def]; dsimp only
    rw [if_neg (by omega), if_neg (by omega), if_pos h0, if_pos ⟨h1, h2⟩]; cases utf8Dec rest <;> rfl
  | [b0, b1, b2, b3], _, ⟨h0, h1, h2, h3, rfl⟩, rest => by
    show utf8Dec (b0 :: b1 :: b2 :: b3 :: rest) = _
    rw [utf8Dec.eq_def]; dsimp only
    rw [if_neg (by omega), if_neg (by omega), if_neg (by omega), if_pos h0, if_pos ⟨h1, h2, h3⟩]; cases utf8Dec rest <;> rfl
  | [], _, h, _ | _ :: _ :: _ :: _ :: _ :: _, _, h, _ => h.elim

theorem isCont_iff (b : Nat) : isCont b = true ↔ 0x80 ≤ b ∧ b ≤ 0xBF := by simp [isCont]

/-- the second-byte table of three-byte sequences, read as a range of the pair `(b0, b1)` in
lexicographic order: from `E0 A0` (below it the forms are overlong) up, without `ED A0 .. ED BF`
(the surrogates) -/
theorem ok3_range {b0 b1 : Nat} (h0 : 0xE0 ≤ b0 ∧ b0 ≤ 0xEF) :
    ok3 b0 b1 ↔ (0x80 ≤ b1 ∧ b1 ≤ 0xBF) ∧ 0xE0 * 64 + 0xA0 ≤ b0 * 64 + b1 ∧
      (b0 * 64 + b1 < 0xED * 64 + 0xA0 ∨ 0xED * 64 + 0xBF < b0 * 64 + b1) := by
  unfold ok3; omega

/-- the same for four-byte sequences: from `F0 90` (overlong below) to `F4 8F` (U+10FFFF) -/
theorem ok4_range {b0 b1 : Nat} (h0 : 0xF0 ≤ b0 ∧ b0 ≤ 0xF4) :
    ok4 b0 b1 ↔ (0x80 ≤ b1 ∧ b1 ≤ 0xBF) ∧ 0xF0 * 64 + 0x90 ≤ b0 * 64 + b1 ∧ b0 * 64 + b1 ≤ 0xF4 * 64 + 0x8F := by
  unfold ok4; omega

/-! The same relation as the encoder sees it, width by width: the value lies in the range the
encoder gives that width, and the bytes are the ones it writes.  This is all the arithmetic of the
two round trips. -/

theorem utf8Seq_w2 {b0 b1 n : Nat} :
    Utf8Seq [b0, b1] n ↔ (0x80 ≤ n ∧ n < 0x800) ∧ b0 = 0xC0 + n / 64 ∧ b1 = 0x80 + n % 64 := by
  rw [Utf8Seq, isCont_iff]; omega

theorem utf8Seq_w3 {b0 b1 b2 n : Nat} :
    Utf8Seq [b0, b1, b2] n ↔
      (0x800 ≤ n ∧ n < 0x10000) ∧ (n < 0xD800 ∨ 0xDFFF < n) ∧
        b0 = 0xE0 + n / 4096 ∧ b1 = 0x80 + n / 64 % 64 ∧ b2 = 0x80 + n % 64 := by
  rw [Utf8Seq, isCont_iff]
  constructor
  · rintro ⟨h0, h1, h2, rfl⟩
    rw [ok3_range h0] at h1
    -- with `b0 = 0xE0 + a` etc. the value is `a * 4096 + x1 * 64 + x2`, digits below 64: no
    -- truncated subtraction is left for `omega` to split on
    obtain ⟨a, rfl⟩ := Nat.exists_eq_add_of_le h0.1
    obtain ⟨x1, rfl⟩ := Nat.exists_eq_add_of_le h1.1.1
    obtain ⟨x2, rfl⟩ := Nat.exists_eq_add_of_le h2.1
    simp only [Nat.add_sub_cancel_left]
    omega
  · rintro ⟨h, hv, rfl, rfl, rfl⟩
    rw [ok3_range (by omega)]
    simp only [Nat.add_sub_cancel_left]
    omega

theorem utf8Seq_w4 {b0 b1 b2 b3 n : Nat} :
    Utf8Seq [b0, b1, b2, b3] n ↔
      (0x10000 ≤ n ∧ n < 0x110000) ∧
        b0 = 0xF0 + n / 262144 ∧ b1 = 0x80 + n / 4096 % 64 ∧ b2 = 0x80 + n / 64 % 64 ∧ b3 = 0x80 + n % 64 := by
  rw [Utf8Seq, isCont_iff, isCont_iff]
  constructor
  · rintro ⟨h0, h1, h2, h3, rfl⟩
    rw [ok4_range h0] at h1
    obtain ⟨a, rfl⟩ := Nat.exists_eq_add_of_le h0.1
    obtain ⟨x1, rfl⟩ := Nat.exists_eq_add_of_le h1.1.1
    obtain ⟨x2, rfl⟩ := Nat.exists_eq_add_of_le h2.1
    obtain ⟨x3, rfl⟩ := Nat.exists_eq_add_of_le h3.1
    simp only [Nat.add_sub_cancel_left]
    omega
  · rintro ⟨h, rfl, rfl, rfl, rfl⟩
    rw [ok4_range (by omega)]
    simp only [Nat.add_sub_cancel_left]
    omega

theorem utf8Seq_enc1 (c : Char) : Utf8Seq (utf8Enc1 c) c.toNat := by
  have hv := char_valid c
  unfold utf8Enc1
  dsimp only
  split
  · exact ⟨‹_›, rfl⟩
  split
  · exact utf8Seq_w2.mpr ⟨⟨Nat.le_of_not_lt ‹_›, ‹_›⟩, rfl, rfl⟩
  split
  · exact utf8Seq_w3.mpr ⟨⟨Nat.le_of_not_lt ‹_›, ‹_›⟩, by omega, rfl, rfl, rfl⟩
  · exact utf8Seq_w4.mpr ⟨⟨Nat.le_of_not_lt ‹_›, by omega⟩, rfl, rfl, rfl, rfl⟩

theorem utf8Dec_enc1 (c : Char) (rest : List Nat) :
    utf8Dec (utf8Enc1 c ++ rest) = (utf8Dec rest).map (c :: ·) := by
  rw [utf8Dec_seq (utf8Seq_enc1 c), Char.ofNat_toNat]

theorem utf8Enc1_of_seq : ∀ {bs : List Nat} {n : Nat}, Utf8Seq bs n → utf8Enc1 (Char.ofNat n) = bs
  | [b0], _, ⟨h0, rfl⟩ => by
    unfold utf8Enc1
    rw [toNat_ofNat_valid _ (by omega), if_pos h0]
  | [b0, b1], n, h => by
    obtain ⟨⟨lo, hi⟩, rfl, rfl⟩ := utf8Seq_w2.mp h
    unfold utf8Enc1
    rw [toNat_ofNat_valid _ (by omega), if_neg (by omega), if_pos hi]
  | [b0, b1, b2], n, h => by
    obtain ⟨⟨lo, hi⟩, hv, rfl, rfl, rfl⟩ := utf8Seq_w3.mp h
    unfold utf8Enc1
    rw [toNat_ofNat_valid _ (by omega), if_neg (by omega), if_neg (by omega), if_pos hi]
  | [b0, b1, b2, b3], n, h => by
    obtain ⟨⟨lo, hi⟩, rfl, rfl, rfl, rfl⟩ := utf8Seq_w4.mp h
    unfold utf8Enc1
    rw [toNat_ofNat_valid _ (by omega), if_neg (by omega), if_neg (by omega), if_neg (by omega)]
  | [], _, h | _ :: _ :: _ :: _ :: _ :: _, _, h => h.elim

theorem utf8Enc_cons (c : Char) (t : Str) : utf8Enc (c :: t) = utf8Enc1 c ++ utf8Enc t := List.flatMap_cons

theorem utf8Enc_of_dec (bs : List Nat) : ∀ t, utf8Dec bs = some t → utf8Enc t = bs := by
  -- along the decoder's own case analysis: `fun_induction` numbers the cases in the order of the
  -- branches of `utf8Dec` (a change there renumbers them).  1 is `[]`; 2, 4, 8, 12 are the accepting
  -- branches of width 1, 2, 3, 4, each of which reads a sequence; every other branch returns `none`.
  fun_induction utf8Dec bs with
  | case1 => rintro _ ⟨⟩; rfl
  | case2 b0 r h t ht ih => rintro _ ⟨⟩; rw [utf8Enc_cons, utf8Enc1_of_seq (bs := [b0]) ⟨h, rfl⟩, ih t ht]; rfl
  | case4 b0 _ h0 b1 r h1 t ht ih =>
    rintro _ ⟨⟩; rw [utf8Enc_cons, utf8Enc1_of_seq (bs := [b0, b1]) ⟨h0, h1, rfl⟩, ih t ht]; rfl
  | case8 b0 _ _ h0 b1 b2 r h t ht ih =>
    rintro _ ⟨⟩; rw [utf8Enc_cons, utf8Enc1_of_seq (bs := [b0, b1, b2]) ⟨h0, h.1, h.2, rfl⟩, ih t ht]; rfl
  | case12 b0 _ _ _ h0 b1 b2 b3 r h t ht ih =>
    rintro _ ⟨⟩; rw [utf8Enc_cons, utf8Enc1_of_seq (bs := [b0, b1, b2, b3]) ⟨h0, h.1, h.2.1, h.2.2, rfl⟩, ih t ht]; rfl
  | _ => nofun

/-! ### percent-encoding -/

theorem pctGo_skip (p t : List Nat) : pctGo p.length (p ++ t) = pctGo 0 t := by
  induction p with
  | nil => simp
  | cons c p ih => simp [pctGo, ih]

theorem hexVal_hexUp : ∀ d, d < 16 → hexVal (hexUp d) = some d := by decide

theorem shouldEncode_pct : shouldEncode 37 = true := by decide

theorem pctDecode_encByte (b : Nat) (hb : b < 256) (rest : List Nat) :
    pctDecode (encByte b ++ rest) = b :: pctDecode rest := by
  unfold encByte pctDecode
  split
  · have h1 := hexVal_hexUp (b / 16) (by omega)
    have h2 := hexVal_hexUp (b % 16) (by omega)
    have e : b / 16 * 16 + b % 16 = b := by omega
    simp only [pctByte, List.cons_append, List.nil_append, pctGo, if_true, afterPercent, h1, h2, e]
  next hs =>
    have hne : b ≠ 37 := by rintro rfl; exact hs shouldEncode_pct
    simp [pctGo, hne]

theorem pctEncode_cons (b : Nat) (r : List Nat) : pctEncode (b :: r) = encByte b ++ pctEncode r :=
  List.flatMap_cons

theorem pctDecode_pctEncode (bs : List Nat) (h : ∀ b ∈ bs, b < 256) : pctDecode (pctEncode bs) = bs := by
  induction bs with
  | nil => rfl
  | cons b r ih =>
    have ⟨hb, hr⟩ := List.forall_mem_cons.mp h
    rw [pctEncode_cons, pctDecode_encByte b hb, ih hr]

/-- three facts about each of the 256 bytes in one statement, so that the table is evaluated once -/
theorem byte_table : ∀ b, b < 256 →
    (shouldEncode b = false ↔
      ((48 ≤ b ∧ b ≤ 57) ∨ (65 ≤ b ∧ b ≤ 90) ∨ (97 ≤ b ∧ b ≤ 122) ∨ b = 45 ∨ b = 46 ∨ b = 95)) ∧
    (∀ x ∈ encByte b, x < 128 ∧ x ≠ 43) ∧
    (shouldEncode b = false → isUnreservedChar (Char.ofNat b) = true) := by decide +kernel

theorem pctEncode_ascii (bs : List Nat) (h : ∀ b ∈ bs, b < 256) : ∀ x ∈ pctEncode bs, x < 128 ∧ x ≠ 43 :=
  List.forall_mem_flatMap.mpr fun b hb => (byte_table b (h b hb)).2.1

theorem utf8Enc_asciiStr (bs : List Nat) (h : ∀ x ∈ bs, x < 128) : utf8Enc (asciiStr bs) = bs := by
  induction bs with
  | nil => rfl
  | cons b r ih =>
    have ⟨hb, hr⟩ := List.forall_mem_cons.mp h
    show utf8Enc (Char.ofNat b :: asciiStr r) = _
    rw [utf8Enc_cons, utf8Enc1_of_seq (bs := [b]) ⟨hb, rfl⟩, ih hr]; rfl

theorem ofNat_ne_plus (b : Nat) (h1 : b < 128) (h2 : b ≠ 43) : Char.ofNat b ≠ '+' := by
  intro h
  have := congrArg Char.toNat h
  rw [toNat_ofNat_valid b (by omega)] at this
  exact h2 this

theorem plusToSpace_asciiStr (bs : List Nat) (h : ∀ x ∈ bs, x < 128 ∧ x ≠ 43) : plusToSpace (asciiStr bs) = asciiStr bs := by
  induction bs with
  | nil => rfl
  | cons b r ih =>
    have ⟨hb, hr⟩ := List.forall_mem_cons.mp h
    show (if Char.ofNat b = '+' then ' ' else Char.ofNat b) :: plusToSpace (asciiStr r) = _
    rw [if_neg (ofNat_ne_plus b hb.1 hb.2), ih hr]; rfl

theorem decodedBytes_urlEncode (s : Str) : decodedBytes (urlEncode s) = utf8Enc s := by
  have ha := pctEncode_ascii (utf8Enc s) (utf8Enc_lt s)
  unfold decodedBytes urlEncode
  rw [plusToSpace_asciiStr _ ha, utf8Enc_asciiStr _ (fun x hx => (ha x hx).1), pctDecode_pctEncode _ (utf8Enc_lt s)]

theorem upperHex_char : ∀ d, d < 16 → isUpperHex (Char.ofNat (hexUp d)) = true := by decide

theorem urlLang_asciiStr_pctEncode (bs : List Nat) (h : ∀ b ∈ bs, b < 256) : UrlLang (asciiStr (pctEncode bs)) := by
  induction bs with
  | nil => exact UrlLang.nil
  | cons b r ih =>
    have ⟨hb, hr⟩ := List.forall_mem_cons.mp h
    rw [pctEncode_cons]
    unfold encByte
    split
    · exact UrlLang.pct _ _ _ (upperHex_char _ (by omega)) (upperHex_char _ (by omega)) (ih hr)
    next hs => exact UrlLang.plain _ _ ((byte_table b hb).2.2 (by simpa using hs)) (ih hr)

theorem urlLang_sound {t : Str} (h : UrlLang t) : urlLang t = true := by
  induction h with
  | nil => rfl
  | plain c t hc _ ih =>
    have hne : c ≠ '%' := by rintro rfl; exact absurd hc (by decide)
    rw [urlLang.eq_def]; simp [hne, hc, ih]
  | pct hh l t h1 h2 _ ih => simp [urlLang, h1, h2, ih]

theorem urlLang_chars {t : Str} (h : UrlLang t) : ∀ c ∈ t, isUnreservedChar c = true ∨ c = '%' := by
  have up : ∀ c, isUpperHex c = true → isUnreservedChar c = true := by
    intro c hc
    simp only [isUpperHex, isUnreservedChar, Bool.or_eq_true, Bool.and_eq_true, decide_eq_true_eq] at hc ⊢
    omega
  induction h with
  | nil => nofun
  | plain c t hc _ ih => exact List.forall_mem_cons.mpr ⟨.inl hc, ih⟩
  | pct hh l t h1 h2 _ ih =>
    rw [List.forall_mem_cons, List.forall_mem_cons, List.forall_mem_cons]
    exact ⟨.inr rfl, .inl (up _ h1), .inl (up _ h2), ih⟩

end Liquid.C16
