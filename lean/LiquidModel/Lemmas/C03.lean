/-
  The lax lexer of `Model/Lex.lean`, matcher by matcher: what a successful match says about its input,
  that the elements tile the text whatever the fuel above its length, that `WHITESPACE*` as pest runs
  it consumes the maximal run of the whitespace class, and what the lexer does with text without
  `{{` / `{%`.
-/
import LiquidModel.Model.Lex
namespace Liquid.Lex

theorem wsRun_append_skipWs (s : List Char) : wsRun s ++ skipWs s = s :=
  List.takeWhile_append_dropWhile

theorem wsRun_all (s : List Char) : ∀ c ∈ wsRun s, isWs c = true :=
  List.all_eq_true.mp List.all_takeWhile

theorem skipWs_head (s : List Char) (c : Char) (h : (skipWs s).head? = some c) : isWs c = false := by
  have := List.head?_dropWhile_not isWs s
  rwa [show (s.dropWhile isWs).head? = some c from h] at this

theorem skipWs_of_ws {c : Char} (h : isWs c = true) (s : List Char) : skipWs (c :: s) = skipWs s := by
  simp [skipWs, List.dropWhile, h]

theorem skipWs_of_not_ws {c : Char} (h : isWs c = false) (s : List Char) : skipWs (c :: s) = c :: s := by
  simp [skipWs, List.dropWhile, h]

theorem wsRun_of_not_ws {c : Char} (h : isWs c = false) (s : List Char) : wsRun (c :: s) = [] := by
  simp [wsRun, List.takeWhile, h]

theorem stripPrefix?_eq : ∀ (p s r : List Char), stripPrefix? p s = some r → s = p ++ r
  | [], s, r, h => by simp [stripPrefix?] at h; simp [h]
  | _ :: _, [], r, h => by simp [stripPrefix?] at h
  | a :: p, b :: s, r, h => by
    simp only [stripPrefix?] at h
    split at h
    · next hab => rw [stripPrefix?_eq p s r h, eq_of_beq hab]; rfl
    · cases h

theorem plainStart_eq {d : Char} {s r : List Char} (h : plainStart d s = some r) : s = '{' :: d :: r := by
  unfold plainStart at h
  split at h
  · split at h <;> cases h
    next hc => rw [eq_of_beq hc]
  · cases h

theorem trimStart_eq {d : Char} {s r : List Char} (h : trimStart d s = some r) :
    skipWs s = '{' :: d :: '-' :: r := by
  unfold trimStart at h
  split at h
  · split at h <;> cases h
    next hc heq => rw [heq, eq_of_beq hc]
  · cases h

theorem startAt_eq {d : Char} {s pre r : List Char} {tl : Bool} (h : startAt d s = some (pre, tl, r)) :
    s = pre ++ (openDelim d tl ++ r) ∧ (tl = false → pre = []) ∧ (∀ c ∈ pre, isWs c = true) ∧
    (tl = true → trimStart d s = some r) := by
  unfold startAt at h
  split at h
  · next ht =>
    cases h
    refine ⟨?_, nofun, wsRun_all s, fun _ => ht⟩
    calc s = wsRun s ++ skipWs s := (wsRun_append_skipWs s).symm
      _ = wsRun s ++ (openDelim d true ++ r) := congrArg (wsRun s ++ ·) (trimStart_eq ht)
  · split at h <;> cases h
    next hp => exact ⟨plainStart_eq hp, fun _ => rfl, nofun, nofun⟩

theorem endAt_eq {d : Char} {s post r : List Char} {tr : Bool} (h : endAt d s = some (tr, post, r)) :
    s = closeDelim d tr ++ (post ++ r) ∧ (tr = false → post = []) ∧ (∀ c ∈ post, isWs c = true) ∧
    (tr = true → ∀ c, r.head? = some c → isWs c = false) := by
  unfold endAt at h
  split at h
  · split at h <;> cases h
    next c r' hc =>
      rw [eq_of_beq hc]
      exact ⟨by simp [closeDelim, wsRun_append_skipWs], nofun, wsRun_all r', fun _ => skipWs_head r'⟩
  · split at h <;> cases h
    next hc _ =>
      rw [eq_of_beq hc]
      exact ⟨rfl, fun _ => rfl, nofun, nofun⟩
  · cases h

/-- everything `markupAt` guarantees about a match -/
structure MarkupSpec (o c : Char) (s : List Char) (m : Markup) (rest : List Char) : Prop where
  tile : s = m.text o c ++ rest
  pre_none : m.trimL = false → m.pre = []
  pre_ws : ∀ x ∈ m.pre, isWs x = true
  post_none : m.trimR = false → m.post = []
  post_ws : ∀ x ∈ m.post, isWs x = true
  post_max : m.trimR = true → ∀ x, rest.head? = some x → isWs x = false
  start : ∃ r, startAt o s = some (m.pre, m.trimL, r)

theorem markupAt_spec {o c : Char} {inner : InnerM} {s rest : List Char} {m : Markup}
    (h : markupAt o c inner s = some (m, rest)) : MarkupSpec o c s m rest := by
  unfold markupAt at h
  split at h
  · cases h
  · next pre tl r1 hs =>
    split at h
    · cases h
    · simp only at h
      split at h
      · cases h
      · next tr post r5 he =>
        cases h
        obtain ⟨s1, s2, s3, -⟩ := startAt_eq hs
        obtain ⟨e1, e2, e3, e4⟩ := endAt_eq he
        refine ⟨?_, s2, s3, e2, e3, e4, ⟨r1, hs⟩⟩
        simp only [Markup.text, List.append_assoc, ← e1, wsRun_append_skipWs, List.take_append_drop]
        exact s1

theorem Markup.text_ne_nil (o c : Char) (m : Markup) : m.text o c ≠ [] := by
  cases h : m.trimL <;> simp [Markup.text, openDelim, h]

theorem scanRaw_append : ∀ (r : List Char), (scanRaw r).1 ++ (scanRaw r).2 = r
  | [] => by simp [scanRaw]
  | c :: r => by
    unfold scanRaw
    split
    · simp
    · simp [scanRaw_append r]

/-- no position inside the scanned text is the start of a delimiter -/
theorem scanRaw_noStart : ∀ (r a b : List Char), (scanRaw r).1 = a ++ b → b ≠ [] →
    isStart (b ++ (scanRaw r).2) = false
  | [], a, b, h, hb => by simp [scanRaw] at h; exact absurd h.2 hb
  | c :: r, a, b, h, hb => by
    unfold scanRaw at h ⊢
    split
    · next hs => rw [if_pos hs] at h; exact absurd (List.append_eq_nil_iff.mp h.symm).2 hb
    · next hs =>
      rw [if_neg hs] at h
      cases a with
      | nil => rw [List.nil_append] at h; subst h; simpa [scanRaw_append r] using hs
      | cons a0 a' => exact scanRaw_noStart r a' b (List.cons.inj h).2 hb

theorem scanRaw_stop : ∀ (r : List Char), (scanRaw r).2 = [] ∨ isStart (scanRaw r).2 = true
  | [] => by simp [scanRaw]
  | c :: r => by
    unfold scanRaw
    split
    · next hs => simp [hs]
    · simpa using scanRaw_stop r

/-- the four ways an element is produced, in the order the grammar tries them -/
theorem lexOne_cases (g : Inner) (c : Char) (r : List Char) :
    (∃ m rest, markupAt '{' '}' g.exprInner (c :: r) = some (m, rest) ∧ lexOne g c r = (.expr m, rest)) ∨
    markupAt '{' '}' g.exprInner (c :: r) = none ∧
    ((∃ m rest, markupAt '%' '%' g.tagInner (c :: r) = some (m, rest) ∧ lexOne g c r = (.tag m, rest)) ∨
     markupAt '%' '%' g.tagInner (c :: r) = none ∧
     (isStart (c :: r) = true ∧ lexOne g c r = (.invalid c, r) ∨
      isStart (c :: r) = false ∧ lexOne g c r = (.raw (scanRaw (c :: r)).1, (scanRaw (c :: r)).2))) := by
  unfold lexOne
  simp only
  cases he : markupAt '{' '}' g.exprInner (c :: r) with
  | some p => exact .inl ⟨p.1, p.2, rfl, rfl⟩
  | none =>
    refine .inr ⟨rfl, ?_⟩
    cases ht : markupAt '%' '%' g.tagInner (c :: r) with
    | some p => exact .inl ⟨p.1, p.2, rfl, rfl⟩
    | none =>
      refine .inr ⟨rfl, ?_⟩
      cases hs : isStart (c :: r)
      · exact .inr ⟨rfl, by simp [scanRaw, hs]⟩
      · exact .inl ⟨rfl, by simp⟩

theorem lexOne_tile (g : Inner) (c : Char) (r : List Char) :
    (lexOne g c r).1.text ++ (lexOne g c r).2 = c :: r ∧ (lexOne g c r).1.text ≠ [] := by
  rcases lexOne_cases g c r with ⟨m, rest, h, e⟩ | ⟨-, ⟨m, rest, h, e⟩ | ⟨-, ⟨-, e⟩ | ⟨hs, e⟩⟩⟩ <;> rw [e]
  · exact ⟨(markupAt_spec h).tile.symm, Markup.text_ne_nil _ _ m⟩
  · exact ⟨(markupAt_spec h).tile.symm, Markup.text_ne_nil _ _ m⟩
  · simp [Elem.text]
  · exact ⟨scanRaw_append (c :: r), by simp [Elem.text, scanRaw, hs]⟩

theorem lexOne_rest_length (g : Inner) (c : Char) (r : List Char) : (lexOne g c r).2.length ≤ r.length := by
  have ⟨h, hne⟩ := lexOne_tile g c r
  have hl : (lexOne g c r).1.text.length + (lexOne g c r).2.length = r.length + 1 := by
    rw [← List.length_append, h, List.length_cons]
  have : 0 < (lexOne g c r).1.text.length := List.length_pos_iff.mpr hne
  omega

def texts (es : List Elem) : List Char := es.flatMap Elem.text

theorem lexFuel_tile (g : Inner) : ∀ (n : Nat) (s : List Char), s.length < n → texts (lexFuel g n s) = s
  | 0, s, h => by omega
  | n + 1, [], _ => by simp [lexFuel, texts]
  | n + 1, c :: r, h => by
    simp only [lexFuel, texts, List.flatMap_cons]
    have hl := lexOne_rest_length g c r
    have ih := lexFuel_tile g n (lexOne g c r).2 (by simp at h; omega)
    simp only [texts] at ih
    rw [ih]
    exact (lexOne_tile g c r).1

theorem lexFuel_nonempty (g : Inner) : ∀ (n : Nat) (s : List Char), ∀ e ∈ lexFuel g n s, e.text ≠ []
  | 0, s, e, h => by simp [lexFuel] at h
  | n + 1, [], e, h => by simp [lexFuel] at h
  | n + 1, c :: r, e, h => by
    simp only [lexFuel, List.mem_cons] at h
    rcases h with h | h
    · subst h; exact (lexOne_tile g c r).2
    · exact lexFuel_nonempty g n _ e h

/-- the loop stops by exhausting the input, not the fuel -/
theorem lexFuel_stable (g : Inner) : ∀ (n k : Nat) (s : List Char), s.length < n → s.length < k →
    lexFuel g n s = lexFuel g k s
  | 0, _, s, h, _ => by omega
  | _, 0, s, _, h => by omega
  | n + 1, k + 1, [], _, _ => by simp [lexFuel]
  | n + 1, k + 1, c :: r, hn, hk => by
    simp only [lexFuel]
    have hl := lexOne_rest_length g c r
    rw [lexFuel_stable g n k (lexOne g c r).2 (by simp at hn; omega) (by simp at hk; omega)]

theorem lexLax_tile (g : Inner) (s : List Char) : texts (lexLax g s) = s :=
  lexFuel_tile g _ s (by omega)

theorem lexLax_cons (g : Inner) (c : Char) (r : List Char) :
    lexLax g (c :: r) = (lexOne g c r).1 :: lexLax g (lexOne g c r).2 := by
  have hl := lexOne_rest_length g c r
  simp only [lexLax, List.length_cons, lexFuel]
  rw [lexFuel_stable g (r.length + 1) ((lexOne g c r).2.length + 1) _ (by omega) (by omega)]

theorem lexLax_nil (g : Inner) : lexLax g [] = [] := by simp [lexLax, lexFuel]

theorem lexLax_head (g : Inner) {s : List Char} {e : Elem} {es : List Elem} (h : lexLax g s = e :: es) :
    ∃ c r, s = c :: r ∧ (lexOne g c r).1 = e ∧ lexLax g (lexOne g c r).2 = es := by
  cases s with
  | nil => simp [lexLax_nil] at h
  | cons c r =>
    rw [lexLax_cons] at h
    exact ⟨c, r, rfl, List.cons.inj h⟩

theorem lexLax_split (g : Inner) : ∀ (es₁ es₂ : List Elem) (s : List Char), lexLax g s = es₁ ++ es₂ →
    ∃ s₂, s = texts es₁ ++ s₂ ∧ lexLax g s₂ = es₂
  | [], es₂, s, h => ⟨s, rfl, h⟩
  | e :: es₁, es₂, s, h => by
    obtain ⟨c, r, rfl, rfl, ht⟩ := lexLax_head g h
    obtain ⟨s₂, h1, h2⟩ := lexLax_split g es₁ es₂ _ ht
    refine ⟨s₂, ?_, h2⟩
    rw [← (lexOne_tile g c r).1, h1]
    simp [texts]

/-- an element that is a tag or an output came from the corresponding rule matching here -/
theorem lexOne_markup {g : Inner} {c : Char} {r : List Char} {e : Elem} {m : Markup}
    (he : (lexOne g c r).1 = e) (hm : e = .tag m ∨ e = .expr m) :
    ∃ o cl inner, ((o, cl, inner) = ('%', '%', g.tagInner) ∨ (o, cl, inner) = ('{', '}', g.exprInner)) ∧
      markupAt o cl inner (c :: r) = some (m, (lexOne g c r).2) := by
  subst he
  rcases lexOne_cases g c r with ⟨m', rest, h, e⟩ | ⟨-, ⟨m', rest, h, e⟩ | ⟨-, ⟨-, e⟩ | ⟨-, e⟩⟩⟩ <;>
    rw [e] at hm ⊢ <;> rcases hm with hm | hm <;> cases hm
  · exact ⟨_, _, _, .inr rfl, h⟩
  · exact ⟨_, _, _, .inl rfl, h⟩

/-- a markup element of the output, with what `markupAt` guarantees, and the text after it -/
theorem lexLax_markup (g : Inner) {s : List Char} {es₁ es₂ : List Elem} {e : Elem} {m : Markup}
    (h : lexLax g s = es₁ ++ e :: es₂) (hm : e = .tag m ∨ e = .expr m) :
    ∃ o c s₂, MarkupSpec o c s₂ m (texts es₂) ∧ s = texts es₁ ++ s₂ := by
  obtain ⟨s₂, hs, h2⟩ := lexLax_split g es₁ (e :: es₂) s h
  obtain ⟨c, r, hc, he, hr⟩ := lexLax_head g h2
  have hrest : texts es₂ = (lexOne g c r).2 := by rw [← hr]; exact lexLax_tile g _
  obtain ⟨o, cl, inner, -, hmk⟩ := lexOne_markup he hm
  exact ⟨o, cl, s₂, by rw [hrest, hc]; exact markupAt_spec hmk, hs⟩

theorem trimStart_ws {d x : Char} (hx : isWs x = true) (s : List Char) :
    trimStart d (x :: s) = trimStart d s := by
  simp [trimStart, skipWs_of_ws hx]

/-- whether a rule matches is decided by the text after its start delimiter -/
theorem markupAt_isSome_congr {o c : Char} {inner : InnerM} {s s' pre pre' r1 : List Char} {tl tl' : Bool}
    (h : startAt o s = some (pre, tl, r1)) (h' : startAt o s' = some (pre', tl', r1)) :
    (markupAt o c inner s).isSome = (markupAt o c inner s').isSome := by
  unfold markupAt
  rw [h, h']
  simp only
  cases inner (skipWs r1) with
  | none => rfl
  | some n =>
    simp only
    cases endAt c (skipWs (List.drop n (skipWs r1))) <;> rfl

/-- a rule that matches with its `{%-` / `{{-` alternative also matches one whitespace character earlier -/
theorem markupAt_ws_cons {o c x : Char} {inner : InnerM} {s rest : List Char} {m : Markup}
    (hx : isWs x = true) (h : markupAt o c inner s = some (m, rest)) (htl : m.trimL = true) :
    (startAt o (x :: s)).isSome = true ∧ (markupAt o c inner (x :: s)).isSome = true := by
  obtain ⟨r1, hs⟩ := (markupAt_spec h).start
  rw [htl] at hs
  have hs' : startAt o (x :: s) = some (wsRun (x :: s), true, r1) := by
    simp [startAt, trimStart_ws hx, (startAt_eq hs).2.2.2 rfl]
  exact ⟨by rw [hs']; rfl, by rw [markupAt_isSome_congr hs' hs, h]; rfl⟩

/-! ### `WHITESPACE*` as pest runs it = the maximal run of the class -/

/-- every alternative is non-empty and consists of characters that are alternatives themselves -/
def AltsShape (alts : List (List Char)) : Prop :=
  ∀ a ∈ alts, a ≠ [] ∧ ∀ c ∈ a, alts.contains [c] = true

theorem pegAlt_some : ∀ (alts : List (List Char)) (s r : List Char), pegAlt alts s = some r →
    ∃ a ∈ alts, s = a ++ r
  | [], s, r, h => by simp [pegAlt] at h
  | a :: as, s, r, h => by
    simp only [pegAlt] at h
    split at h
    · next hp => cases h; exact ⟨a, by simp, stripPrefix?_eq a s _ hp⟩
    · obtain ⟨b, hb, hs⟩ := pegAlt_some as s r h
      exact ⟨b, by simp [hb], hs⟩

theorem stripPrefix?_append (p r : List Char) : stripPrefix? p (p ++ r) = some r := by
  induction p with
  | nil => simp [stripPrefix?]
  | cons a p ih => simp [stripPrefix?, ih]

theorem pegAlt_isSome_of_mem : ∀ (alts : List (List Char)) (a r : List Char), a ∈ alts →
    (pegAlt alts (a ++ r)).isSome = true
  | [], a, r, h => by simp at h
  | b :: bs, a, r, h => by
    simp only [pegAlt]
    split
    · simp
    · next hn =>
      rcases List.mem_cons.mp h with rfl | h
      · simp [stripPrefix?_append] at hn
      · exact pegAlt_isSome_of_mem bs a r h

theorem pegStarFuel_eq (alts : List (List Char)) (hs : AltsShape alts) :
    ∀ (n : Nat) (s : List Char), s.length < n →
      pegStarFuel alts n s = s.dropWhile (fun c => alts.contains [c])
  | 0, s, h => by omega
  | n + 1, s, h => by
    simp only [pegStarFuel]
    split
    · next r hr =>
      obtain ⟨a, ha, hsa⟩ := pegAlt_some alts s r hr
      obtain ⟨hne, hall⟩ := hs a ha
      have hlen : r.length < s.length := by
        have : 0 < a.length := List.length_pos_iff.mpr hne
        simp [hsa]; omega
      rw [if_pos hlen, pegStarFuel_eq alts hs n r (by omega), hsa]
      exact (List.dropWhile_append_of_pos hall).symm
    · next hnone =>
      cases s with
      | nil => simp
      | cons c t =>
        by_cases hc : alts.contains [c] = true
        · have := pegAlt_isSome_of_mem alts [c] t (by simpa using hc)
          simp [hnone] at this
        · rw [List.dropWhile_cons_of_neg (by simpa using hc)]

theorem pegStar_eq_dropWhile (alts : List (List Char)) (hs : AltsShape alts) (s : List Char) :
    pegStar alts s = s.dropWhile (fun c => alts.contains [c]) :=
  pegStarFuel_eq alts hs _ s (by omega)

/-! ### text without delimiters -/

/-- the text contains `{{` or `{%` -/
def hasOpen : List Char → Bool
  | [] => false
  | c :: r => (c == '{' && (r.head? == some '{' || r.head? == some '%')) || hasOpen r

theorem hasOpen_tail {c : Char} {r : List Char} (h : hasOpen (c :: r) = false) : hasOpen r = false := by
  simp [hasOpen] at h; exact h.2

theorem hasOpen_append_open {d : Char} (hd : d = '%' ∨ d = '{') (pre r : List Char) :
    hasOpen (pre ++ '{' :: d :: r) = true := by
  induction pre with
  | nil => rcases hd with rfl | rfl <;> simp [hasOpen]
  | cons c t ih => simp [hasOpen, ih]

/-- a start delimiter, with the whitespace before it, contains `{%` or `{{` -/
theorem startAt_none_of_noOpen {d : Char} (hd : d = '%' ∨ d = '{') {s : List Char} (h : hasOpen s = false) :
    startAt d s = none := by
  cases hs : startAt d s with
  | none => rfl
  | some x =>
    obtain ⟨pre, tl, r⟩ := x
    rw [(startAt_eq hs).1] at h
    cases tl <;> simp [openDelim, hasOpen_append_open hd] at h

theorem isStart_false_of_noOpen {s : List Char} (h : hasOpen s = false) : isStart s = false := by
  simp [isStart, startAt_none_of_noOpen (Or.inl rfl) h, startAt_none_of_noOpen (Or.inr rfl) h]

theorem scanRaw_noOpen : ∀ (s : List Char), hasOpen s = false → scanRaw s = (s, [])
  | [], _ => by simp [scanRaw]
  | c :: r, h => by
    simp [scanRaw, isStart_false_of_noOpen h, scanRaw_noOpen r (hasOpen_tail h)]

theorem markupAt_none_of_noOpen {o c : Char} (ho : o = '%' ∨ o = '{') (inner : InnerM) {s : List Char}
    (h : hasOpen s = false) : markupAt o c inner s = none := by
  simp [markupAt, startAt_none_of_noOpen ho h]

theorem lexLax_plain (g : Inner) (c : Char) (r : List Char) (h : hasOpen (c :: r) = false) :
    lexLax g (c :: r) = [.raw (c :: r)] := by
  rw [lexLax_cons]
  have h1 : lexOne g c r = (.raw (c :: r), []) := by
    simp [lexOne, markupAt_none_of_noOpen (Or.inl rfl) _ h, markupAt_none_of_noOpen (Or.inr rfl) _ h,
      isStart_false_of_noOpen h, scanRaw_noOpen r (hasOpen_tail h)]
  simp [h1, lexLax_nil]

end Liquid.Lex
