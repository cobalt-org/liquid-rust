/-
  Run lemmas of the render monad `M`: what each primitive, `bind`, `inFrames` and `emit` do when
  applied to a runtime and a sink; `renderN` without fuel.
-/
import LiquidModel.Model.Render
namespace Liquid

@[simp] theorem M.run_pure {α} (a : α) (rt : Rt) (w : W) : (Pure.pure a : M α) rt w = (.ok a, rt, w) := rfl
@[simp] theorem M.run_pure' {α} (a : α) (rt : Rt) (w : W) : (M.pure a : M α) rt w = (.ok a, rt, w) := rfl

theorem M.run_bind {α β} (m : M α) (f : α → M β) (rt : Rt) (w : W) :
    (m >>= f) rt w = match m rt w with
      | (.ok a, rt', w') => f a rt' w'
      | (.err, rt', w') => (.err, rt', w')
      | (.io, rt', w') => (.io, rt', w')
      | (.panic s, rt', w') => (.panic s, rt', w')
      | (.fuel, rt', w') => (.fuel, rt', w') := rfl

theorem M.run_bind_ok {α β} (m : M α) (f : α → M β) (rt rt' : Rt) (w w' : W) (a : α)
    (h : m rt w = (.ok a, rt', w')) : (m >>= f) rt w = f a rt' w' := by
  simp [M.run_bind, h]

theorem M.run_bind_notok {α β} (m : M α) (f : α → M β) (rt rt' : Rt) (w w' : W) (r : Res α)
    (h : m rt w = (r, rt', w')) (hr : r.isOk = false) : (m >>= f) rt w = (M.castErr r, rt', w') := by
  cases r <;> simp_all [M.run_bind, Res.isOk, M.castErr]

@[simp] theorem M.run_lift {α} (r : Res α) (rt : Rt) (w : W) : M.lift r rt w = (r, rt, w) := rfl
@[simp] theorem M.run_getSt (rt : Rt) (w : W) : M.getSt rt w = (.ok rt.layers, rt, w) := rfl
@[simp] theorem M.run_getRegs (rt : Rt) (w : W) : M.getRegs rt w = (.ok rt.regs, rt, w) := rfl
@[simp] theorem M.run_setLayers (ls : Stack) (rt : Rt) (w : W) :
    M.setLayers ls rt w = (.ok (), { rt with layers := ls }, w) := rfl
@[simp] theorem M.run_setRegs (g : Regs) (rt : Rt) (w : W) :
    M.setRegs g rt w = (.ok (), rt.setRegs g, w) := rfl

/-- the pushed frames are popped whatever `m` returned -/
theorem M.run_inFrames {α} (ls : List Layer) (m : M α) (rt : Rt) (w : W) :
    M.inFrames ls m rt w =
      ((m { rt with layers := ls ++ rt.layers } w).1,
       { (m { rt with layers := ls ++ rt.layers } w).2.1 with
          layers := (m { rt with layers := ls ++ rt.layers } w).2.1.layers.drop ls.length },
       (m { rt with layers := ls ++ rt.layers } w).2.2) := rfl

theorem M.run_emit {s : Str} {w : W} (hb : w.budget = none) (rt : Rt) :
    ∃ w', M.emit s rt w = (.ok (), rt, w') ∧ w'.budget = none ∧ w'.text = w.text ++ s := by
  unfold M.emit W.write
  by_cases he : s.isEmpty
  · have : s = [] := by simpa using he
    exact ⟨w, by simp [he], hb, by simp [this]⟩
  · exact ⟨{ w with out := w.out ++ [s] }, by simp [he, hb], hb, by simp [W.text]⟩

/-! The same for a primitive followed by a continuation, in two spellings: `m >>= f` (the primed
names), which is what `rw [renderN]` and `simp only [renderN]` leave and what the proofs meet, and
`M.bind m f`, the function behind the notation (`M.bind_eq`), which `simp` reaches only if it is told
to unfold `bind`.  The two are definitionally equal, but `simp` matches syntactically. -/
@[simp] theorem M.bind_getSt {β} (f : Stack → M β) (rt : Rt) (w : W) : M.bind M.getSt f rt w = f rt.layers rt w := rfl
@[simp] theorem M.bind_getRegs {β} (f : Regs → M β) (rt : Rt) (w : W) : M.bind M.getRegs f rt w = f rt.regs rt w := rfl
@[simp] theorem M.bind_lift_ok {α β} (a : α) (f : α → M β) (rt : Rt) (w : W) :
    M.bind (M.lift (.ok a)) f rt w = f a rt w := rfl
@[simp] theorem M.bind_lift_err {α β} (f : α → M β) (rt : Rt) (w : W) :
    M.bind (M.lift (.err : Res α)) f rt w = (.err, rt, w) := rfl
@[simp] theorem M.bind_lift_panic {α β} (s : String) (f : α → M β) (rt : Rt) (w : W) :
    M.bind (M.lift (.panic s : Res α)) f rt w = (.panic s, rt, w) := rfl
@[simp] theorem M.bind_setRegs {β} (g : Regs) (f : Unit → M β) (rt : Rt) (w : W) :
    M.bind (M.setRegs g) f rt w = f () (rt.setRegs g) w := rfl
@[simp] theorem M.bind_setLayers {β} (ls : Stack) (f : Unit → M β) (rt : Rt) (w : W) :
    M.bind (M.setLayers ls) f rt w = f () { rt with layers := ls } w := rfl
@[simp] theorem M.bind_pure {α β} (a : α) (f : α → M β) (rt : Rt) (w : W) :
    M.bind (Pure.pure a) f rt w = f a rt w := rfl
@[simp] theorem M.bind'_getSt {β} (f : Stack → M β) (rt : Rt) (w : W) : (M.getSt >>= f) rt w = f rt.layers rt w := rfl
@[simp] theorem M.bind'_getRegs {β} (f : Regs → M β) (rt : Rt) (w : W) : (M.getRegs >>= f) rt w = f rt.regs rt w := rfl
@[simp] theorem M.bind'_lift_ok {α β} (a : α) (f : α → M β) (rt : Rt) (w : W) :
    (M.lift (.ok a) >>= f) rt w = f a rt w := rfl
@[simp] theorem M.bind'_lift_err {α β} (f : α → M β) (rt : Rt) (w : W) :
    (M.lift (.err : Res α) >>= f) rt w = (.err, rt, w) := rfl
@[simp] theorem M.bind'_lift_panic {α β} (s : String) (f : α → M β) (rt : Rt) (w : W) :
    (M.lift (.panic s : Res α) >>= f) rt w = (.panic s, rt, w) := rfl
@[simp] theorem M.bind'_setRegs {β} (g : Regs) (f : Unit → M β) (rt : Rt) (w : W) :
    (M.setRegs g >>= f) rt w = f () (rt.setRegs g) w := rfl
@[simp] theorem M.bind'_setLayers {β} (ls : Stack) (f : Unit → M β) (rt : Rt) (w : W) :
    (M.setLayers ls >>= f) rt w = f () { rt with layers := ls } w := rfl
@[simp] theorem M.bind'_pure {α β} (a : α) (f : α → M β) (rt : Rt) (w : W) :
    ((Pure.pure a : M α) >>= f) rt w = f a rt w := rfl
theorem M.bind_eq {α β} (m : M α) (f : α → M β) : M.bind m f = (m >>= f) := rfl

theorem renderN_zero (env : Env) (n : Node) : renderN 0 env n = M.lift .fuel := by rw [renderN]

/-- Relating every start runtime to the end runtime by a transitive relation is closed under
`bind`: a failure of `m` leaves the runtime where `m` left it.  (`Pres S` for every `StepRel`; what
the caller of `render` observes, `C08.OnlyCounters`, which is no `StepRel`.) -/
theorem M.bind_ends {R : Rt → Rt → Prop} (trans : ∀ a b c, R a b → R b c → R a c) {α β} {m : M α} {f : α → M β}
    (hm : ∀ rt w, R rt (m rt w).2.1) (hf : ∀ a rt w, R rt (f a rt w).2.1) (rt : Rt) (w : W) :
    R rt ((m >>= f) rt w).2.1 := by
  have h1 := hm rt w
  rw [M.run_bind]
  rcases hr : m rt w with ⟨r, rt', w'⟩
  rw [hr] at h1
  cases r with
  | ok a => exact trans _ _ _ h1 (hf a rt' w')
  | _ => exact h1

end Liquid
