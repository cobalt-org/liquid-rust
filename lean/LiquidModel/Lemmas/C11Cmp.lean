/-
  C11 helper lemmas: `value_cmp` — one lexicographic comparison `lexBy` for arrays and
  (key-sorted) objects, with duality, congruence and consistency with equality proved once; then
  unfolding, duality, consistency with `value_eq`.
-/
import LiquidModel.Lemmas.C11Eq
namespace Liquid.C11L
open Liquid Liquid.C11

section lexBy
variable {α β α' β' : Type}

/-- `Iterator::partial_cmp_by`: lexicographic, stops at the first pair that is not `Equal` -/
def lexBy (c : α → β → Option Ordering) : List α → List β → Option Ordering
  | [], [] => some .eq
  | [], _ :: _ => some .lt
  | _ :: _, [] => some .gt
  | x :: xs, y :: ys =>
    match c x y with
    | some .eq => lexBy c xs ys
    | o => o

theorem lexBy_dual {c : α → β → Option Ordering} {c' : β → α → Option Ordering} (xs : List α) (ys : List β)
    (H : ∀ x ∈ xs, ∀ y ∈ ys, c' y x = swapO (c x y)) : lexBy c' ys xs = swapO (lexBy c xs ys) := by
  induction xs, ys using zipInduct with
  | cons_cons x xs y ys ih =>
    rw [lexBy, lexBy, H x (.head _) y (.head _), ih fun x hx y hy => H x (.tail _ hx) y (.tail _ hy)]
    rcases c x y with _ | _ | _ | _ <;> rfl
  | _ => rfl

theorem lexBy_map {c : α → β → Option Ordering} {c' : α' → β' → Option Ordering} (f : α → α') (g : β → β')
    (xs : List α) (ys : List β) (H : ∀ x ∈ xs, ∀ y ∈ ys, c' (f x) (g y) = c x y) :
    lexBy c' (xs.map f) (ys.map g) = lexBy c xs ys := by
  induction xs, ys using zipInduct with
  | cons_cons x xs y ys ih =>
    rw [List.map_cons, List.map_cons, lexBy, lexBy, H x (.head _) y (.head _),
      ih fun x hx y hy => H x (.tail _ hx) y (.tail _ hy)]
  | _ => rfl

theorem lexBy_eq_iff {c : α → β → Option Ordering} {E : α → β → Prop} (xs : List α) (ys : List β)
    (H : ∀ x ∈ xs, ∀ y ∈ ys, Agree (E x y) (c x y)) : Agree (List.Forall₂ E xs ys) (lexBy c xs ys) := by
  induction xs, ys using zipInduct with
  | nil_nil => rintro o ⟨⟩; exact ⟨fun _ => rfl, fun _ => .nil⟩
  | nil_cons | cons_nil => rintro o ⟨⟩; exact ⟨nofun, nofun⟩
  | cons_cons x xs y ys ih =>
    intro o h
    rw [lexBy] at h
    rw [List.forall₂_cons]
    have hxy := H x (.head _) y (.head _)
    rcases hc : c x y with _ | _ | _ | _ <;> rw [hc] at h
    · cases h
    · -- the heads are ordered and not `Equal`: they decide, and `E` fails on them
      cases h; exact ⟨fun h => Ordering.noConfusion ((hxy _ hc).1 h.1), nofun⟩
    · -- the heads are `Equal`, so `E` holds of them: the tails decide
      rw [ih (fun x hx y hy => H x (.tail _ hx) y (.tail _ hy)) o h]
      exact and_iff_right ((hxy _ hc).2 rfl)
    · cases h; exact ⟨fun h => Ordering.noConfusion ((hxy _ hc).1 h.1), nofun⟩

end lexBy

theorem valueCmp_arr (xs ys : List V) : valueCmp (.arr xs) (.arr ys) = lexBy valueCmp xs ys := by
  rw [valueCmp]
  induction xs, ys using zipInduct with
  | cons_cons x xs y ys ih => rw [cmpL, lexBy, ih]; rfl
  | _ => rfl

def entryCmp (e e' : Str × V) : Option Ordering :=
  match strCmp e.1 e'.1 with
  | .eq => valueCmp e.2 e'.2
  | o => some o

theorem lexK_cmpFns (xs ys : Obj) : lexK (cmpFns xs) ys = lexBy entryCmp xs ys := by
  induction xs, ys using zipInduct with
  | cons_cons e xs e' ys ih =>
    rw [cmpFns, lexK, lexBy, entryCmp, ih]
    cases strCmp e.1 e'.1 <;> rfl
  | _ => rfl

theorem valueCmp_obj (xs ys : Obj) : valueCmp (.obj xs) (.obj ys) = lexBy entryCmp (sortK xs) (sortK ys) := by
  rw [valueCmp, cmpFns_eq, sortK_mapV, ← cmpFns_eq, lexK_cmpFns]

/-- `value_cmp` where it does not recurse -/
def cmpFlat : V → V → Option Ordering
  | .sc x, .sc y => scalarCmp x y
  | _, _ => none

theorem valueCmp_flat {a b : V} (h : flat a b = true) : valueCmp a b = cmpFlat a b := by
  cases a <;> cases b <;> first | rfl | exact absurd h Bool.false_ne_true

theorem cmpFlat_dual (a b : V) : cmpFlat b a = swapO (cmpFlat a b) := by
  cases a with
  | sc x =>
    cases b with
    | sc y => exact scalarCmp_dual x y
    | _ => rfl
  | _ => cases b <;> rfl

theorem entryCmp_dual (e e' : Str × V) (H : valueCmp e'.2 e.2 = swapO (valueCmp e.2 e'.2)) :
    entryCmp e' e = swapO (entryCmp e e') := by
  rw [entryCmp, entryCmp, strCmp_swap e.1 e'.1, H]
  cases strCmp e.1 e'.1 <;> rfl

theorem valueCmp_dual : ∀ a b : V, valueCmp b a = swapO (valueCmp a b) := by
  refine pairInduct ?_ ?_ ?_
  · intro xs ys ih
    rw [valueCmp_arr, valueCmp_arr]; exact lexBy_dual xs ys ih
  · intro xs ys ih
    rw [valueCmp_obj, valueCmp_obj]
    exact lexBy_dual _ _ fun e he e' he' =>
      entryCmp_dual e e' (ih e ((mem_sortK _ _).1 he) e' ((mem_sortK _ _).1 he')).1
  · intro a b h
    rw [valueCmp_flat h, valueCmp_flat (flat_comm h)]; exact cmpFlat_dual a b

theorem entryCmp_eq_iff (e e' : Str × V) (H : Agree (valueEq e'.2 e.2 = true) (valueCmp e'.2 e.2)) :
    Agree (entryEq e e') (entryCmp e e') := by
  intro o h
  unfold entryCmp at h
  rw [entryEq, ← strCmp_eq_iff]
  cases hk : strCmp e.1 e'.1 <;> rw [hk] at h
  · cases h; exact ⟨fun h => Ordering.noConfusion h.1, nofun⟩
  · rw [valueCmp_dual e'.2 e.2] at h
    exact (and_iff_right rfl).trans ((H _ (swapO_eq_some h)).trans Ordering.swap_eq_eq)
  · cases h; exact ⟨fun h => Ordering.noConfusion h.1, nofun⟩

theorem valueCmp_eq_iff : ∀ a b : V, WFV a = true → WFV b = true → Agree (valueEq a b = true) (valueCmp a b) := by
  refine pairInduct ?_ ?_ ?_
  · intro xs ys ih hwa hwb
    rw [valueCmp_arr, valueEq_arr_iff]
    exact lexBy_eq_iff xs ys fun x hx y hy => ih x hx y hy (every_arr_mem hwa hx) (every_arr_mem hwb hy)
  · intro xs ys ih hwa hwb
    rw [valueCmp_obj, valueEq_obj_iff (wfv_obj_keys hwa) (wfv_obj_keys hwb)]
    refine lexBy_eq_iff _ _ fun e he e' he' => entryCmp_eq_iff e e' ?_
    have he := (mem_sortK _ _).1 he
    have he' := (mem_sortK _ _).1 he'
    exact (ih e he e' he').2 (every_obj_mem hwb he') (every_obj_mem hwa he)
  · intro a b hf _ _
    rw [valueCmp_flat hf]
    cases a with
    | sc x =>
      cases b with
      | sc y => rw [valueEq_flat rfl]; exact scalarCmp_eq_iff x y
      | _ => exact Agree.none
    | _ => exact Agree.none

end Liquid.C11L
