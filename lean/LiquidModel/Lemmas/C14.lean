/-
  Helper lemmas for C14: sort theory relative to a list (`TotalPreorderOn`), the repaired comparator
  as the lexicographic comparison of sort keys, the `uniq` loop, `canonicalize_slice` on a list.
-/
import LiquidModel.Spec.C14
import LiquidModel.Lemmas.Order
namespace Liquid.C14
open Liquid Liquid.Arr List

/-! ### sort theory relative to the elements of one list -/

section ext
variable {α : Type}

open Classical in
/-- A comparator that agrees with `le` on `xs` and is a total preorder on the whole type as soon as
`le` is one on `xs` (everything outside `xs` is put, as one class, below `xs`).  Core's `mergeSort`
lemmas ask for a total preorder on the whole type; `TotalPreorderOn` promises one on `xs` only. -/
noncomputable def extLe (xs : List α) (le : α → α → Bool) (a b : α) : Bool :=
  if a ∈ xs then (if b ∈ xs then le a b else false) else true

theorem extLe_agree (xs : List α) (le : α → α → Bool) {a b : α} (ha : a ∈ xs) (hb : b ∈ xs) :
    extLe xs le a b = le a b := by
  simp [extLe, ha, hb]

theorem extLe_total {xs : List α} {le : α → α → Bool} (h : TotalPreorderOn xs le) (a b : α) :
    (extLe xs le a b || extLe xs le b a) = true := by
  by_cases ha : a ∈ xs <;> by_cases hb : b ∈ xs <;> simp [extLe, ha, hb]
  simpa using h.total a ha b hb

theorem extLe_trans {xs : List α} {le : α → α → Bool} (h : TotalPreorderOn xs le) (a b c : α) :
    extLe xs le a b = true → extLe xs le b c = true → extLe xs le a c = true := by
  by_cases ha : a ∈ xs <;> by_cases hb : b ∈ xs <;> by_cases hc : c ∈ xs <;> simp [extLe, ha, hb, hc]
  exact h.trans a ha b hb c hc

theorem mergeSort_congr_on (xs : List α) (le le' : α → α → Bool)
    (h : ∀ a, a ∈ xs → ∀ b, b ∈ xs → le a b = le' a b) : mergeSort xs le = mergeSort xs le' := by
  have := map_mergeSort (r := le) (s := le') (f := id) (l := xs) (by simpa using h)
  simpa using this

theorem mergeSort_ext (xs : List α) (le : α → α → Bool) :
    mergeSort xs le = mergeSort xs (extLe xs le) :=
  mergeSort_congr_on xs le _ fun _ ha _ hb => (extLe_agree xs le ha hb).symm

theorem sorted_of_preorderOn {xs : List α} {le : α → α → Bool} (h : TotalPreorderOn xs le) :
    (mergeSort xs le).Pairwise (fun a b => le a b = true) := by
  have hp := pairwise_mergeSort (le := extLe xs le) (extLe_trans h) (extLe_total h) xs
  rw [← mergeSort_ext] at hp
  refine hp.imp_of_mem ?_
  intro a b ha hb hab
  rw [mem_mergeSort] at ha hb
  rwa [extLe_agree xs le ha hb] at hab

theorem stable_of_preorderOn {xs : List α} {le : α → α → Bool} (h : TotalPreorderOn xs le)
    {ys : List α} (hs : ys <+ xs) (hp : ys.Pairwise (fun a b => le a b = true)) :
    ys <+ mergeSort xs le := by
  rw [mergeSort_ext]
  refine sublist_mergeSort (extLe_trans h) (extLe_total h) ?_ hs
  refine hp.imp_of_mem ?_
  intro a b ha hb hab
  rwa [extLe_agree xs le (hs.subset ha) (hs.subset hb)]

theorem idem_of_preorderOn {xs : List α} {le : α → α → Bool} (h : TotalPreorderOn xs le) :
    mergeSort (mergeSort xs le) le = mergeSort xs le :=
  mergeSort_of_pairwise (sorted_of_preorderOn h)

end ext

/-! ### the repaired comparator compares sort keys -/

open Std
-- Core gives `Prod` no `Ord` instance.  This makes `compare` on the sort keys below (`Nat × SK`,
-- `Nat × Str`) the lexicographic one, which is the one `Std`'s `TransCmp` instance for pairs is about.
attribute [local instance] lexOrd

theorem preorderOn_of_key {α β : Type} {cmp : β → β → Ordering} [TransCmp cmp] (k : α → β)
    {xs : List α} {le : α → α → Bool} (h : ∀ a ∈ xs, ∀ b ∈ xs, le a b = (cmp (k a) (k b)).isLE) :
    TotalPreorderOn xs le where
  total a ha b hb := by
    rw [h a ha b hb, h b hb a ha, OrientedCmp.eq_swap (cmp := cmp) (a := k b)]
    cases cmp (k a) (k b) <;> rfl
  trans a ha b hb c hc := by
    rw [h a ha b hb, h b hb c hc, h a ha c hc]; exact TransCmp.isLE_trans

/-- The two families of value kinds on each of which the comparator is coherent, i.e. one transitive
order: `nice false` (integers of any size, no floats) or `nice2` (floats, and integers that `as f64`
converts exactly).  Integers beyond 2^53 together with floats are not (`C14_int_float_counterexample`). -/
def coherent (fl : Bool) (v : V) : Bool := if fl then nice2 v else nice false v

/-- rank of a value under the repaired comparator: `kind_rank`, nil after everything -/
def rk (a : V) : Nat := if a.isNil then 8 else kindRank a

theorem kindRank_lt (a : V) : kindRank a < 8 := by
  unfold kindRank
  split <;> first | decide | (split <;> decide)

theorem sortCmp_eq_then (a b : V) :
    sortCmp a b = (compare (rk a) (rk b)).then ((valueCmp a b).getD .eq) := by
  unfold sortCmp nilSafeCompare rk
  cases ha : a.isNil <;> cases hb : b.isNil
  · show (if kindRank a < kindRank b then some .lt else if kindRank b < kindRank a then some .gt
        else valueCmp a b).getD .eq = (compare (kindRank a) (kindRank b)).then _
    rw [Nat.compare_eq_ite_lt]
    split
    · rfl
    · split <;> rfl
  · show Ordering.lt = (compare (kindRank a) 8).then _
    rw [Nat.compare_eq_lt.2 (kindRank_lt a)]; rfl
  · show Ordering.gt = (compare 8 (kindRank b)).then _
    rw [Nat.compare_eq_gt.2 (kindRank_lt b)]; rfl
  · cases a <;> cases ha
    rfl

/-- what decides inside one rank: (float tier, number in units of 2^-1074, text) -/
abbrev SK := Nat × Int × Str

/-- the scale of `FV.fin`: one unit is 2^-1074 -/
def scaleS : Int := 2^1074

def skF : FV → SK
  | .nan => (0, 0, [])
  | .ninf => (0, 0, [])
  | .fin q => (1, q, [])
  | .pinf => (2, 0, [])

/-- integers sit in the tier of the finite floats: between them the number decides -/
def skS : Sc → SK
  | .int i => (1, i * scaleS, [])
  | .flt f => skF f.toFV
  | .bool b => (0, if b then 1 else 0, [])
  | .dt _ => (0, 0, [])
  | .date d => (0, d.days, [])
  | .str s => (0, 0, s)

def skIn : V → SK
  | .sc x => skS x
  | _ => (0, 0, [])

/-- sort key of a value: its rank, then what decides inside the rank -/
def sk (a : V) : Nat × SK := (rk a, skIn a)

theorem scale_compare (x y : Int) : compare (x * scaleS) (y * scaleS) = compare x y := by
  have hS : 0 < scaleS := Int.pow_pos (by decide)
  simp only [compare, compareOfLessAndEq, Int.mul_lt_mul_right hS, Int.mul_eq_mul_right_iff (Int.ne_of_gt hS)]

theorem then_congr {o x y : Ordering} (h : o = .eq → x = y) : o.then x = o.then y := by
  cases o <;> first | rfl | exact h rfl

theorem ofI64_small {fl : Bool} {i : Int} {g : Fl} (hi : coherent fl (.sc (.int i)) = true)
    (hg : coherent fl (.sc (.flt g)) = true) : FV.ofI64 i = .fin (i * scaleS) := by
  cases fl with
  | false => cases hg
  | true =>
    -- `hi` is `decide (i.natAbs < 2^53) = true`
    rw [FV.ofI64, roundI64ToF64_exact i (by have := of_decide_eq_true hi; omega)]; rfl

/-- `kind_rank` of a float -/
def nanRank (v : FV) : Nat := if isNanFV v then 1 else 0

theorem nanRank_le (v : FV) : nanRank v ≤ 1 := by cases v <;> exact Nat.le_of_ble_eq_true rfl

/-- floats of one rank (all NaN, or none): IEEE comparison is the comparison of (tier, number).
Stated on `FV` and used at `f.toFV`: once `kindRank` or `scalarCmp` of a float is unfolded,
`generalize f.toFV` is not type correct (the `Decidable` instances keep the folded term). -/
theorem fvCmp_eq_compare (v w : FV) (h : nanRank v = nanRank w) :
    (v.cmp w).getD .eq = compare (skF v) (skF w) := by
  cases v <;> cases w <;> first | rfl | exact Ordering.then_eq.symm | cases h

theorem scalarCmp_eq_compare (fl : Bool) (x y : Sc) (hx : coherent fl (.sc x) = true) (hy : coherent fl (.sc y) = true)
    (h : kindRank (.sc x) = kindRank (.sc y)) : (scalarCmp x y).getD .eq = compare (skS x) (skS y) := by
  -- pairs of different kinds have different ranks (`h`), a float's being at most 1; date-times are
  -- not coherent; what is left is one arm of `scalar_cmp` each
  have hF : ∀ (f : Fl) (n : Nat), nanRank f.toFV = n → n ≤ 1 := fun f _ e => e ▸ nanRank_le _
  cases x with
  | dt _ => cases fl <;> cases hx
  | int i =>
    cases y with
    | dt _ => cases fl <;> cases hy
    | int i' =>
      show compare i i' = (compare (i * scaleS) (i' * scaleS)).then .eq
      rw [Ordering.then_eq, scale_compare]
    | flt g =>
      show ((FV.ofI64 i).cmp g.toFV).getD .eq = _
      rw [ofI64_small hx hy]; exact fvCmp_eq_compare (.fin _) g.toFV h
    | _ => cases h
  | flt f =>
    cases y with
    | dt _ => cases fl <;> cases hy
    | int i' =>
      show (f.toFV.cmp (FV.ofI64 i')).getD .eq = _
      rw [ofI64_small hy hx]; exact fvCmp_eq_compare f.toFV (.fin _) h
    | flt g => exact fvCmp_eq_compare f.toFV g.toFV h
    | bool _ => exact absurd (hF f 2 h) (by decide)
    | date _ => exact absurd (hF f 3 h) (by decide)
    | str _ => exact absurd (hF f 4 h) (by decide)
  | bool b =>
    cases y with
    | dt _ => cases fl <;> cases hy
    | bool b' => cases b <;> cases b' <;> rfl
    | flt g => exact absurd (hF g 2 h.symm) (by decide)
    | _ => cases h
  | date d =>
    cases y with
    | dt _ => cases fl <;> cases hy
    | date d' => exact Ordering.then_eq.symm
    | flt g => exact absurd (hF g 3 h.symm) (by decide)
    | _ => cases h
  | str s =>
    cases y with
    | dt _ => cases fl <;> cases hy
    | str s' => exact strCmp_eq_compare s s'
    | flt g => exact absurd (hF g 4 h.symm) (by decide)
    | _ => cases h

theorem kindRank_sc_le (x : Sc) : kindRank (.sc x) ≤ 4 := by
  cases x with
  | flt f => exact Nat.le_trans (nanRank_le f.toFV) (Nat.le_of_ble_eq_true rfl)
  | _ => exact Nat.le_of_ble_eq_true rfl

/-- The fact the sort theorems rest on: on coherent values the repaired comparator is core's
lexicographic `compare` of the sort keys, so that it is a total preorder because `compare` is one
(`preorderOn_of_key`). -/
theorem sortCmp_eq_compare (fl : Bool) (a b : V) (ha : coherent fl a = true) (hb : coherent fl b = true) :
    sortCmp a b = compare (sk a) (sk b) := by
  rw [sortCmp_eq_then]
  refine then_congr fun h => ?_
  have h : rk a = rk b := Nat.compare_eq_eq.1 h
  -- a scalar has rank at most 4, a marker 7, nil 8
  have hS : ∀ (x : Sc) (n : Nat), kindRank (.sc x) = n → n ≤ 4 := fun x _ e => e ▸ kindRank_sc_le x
  cases a with
  | arr _ | obj _ => cases fl <;> cases ha
  | nil =>
    cases b with
    | sc y => exact absurd (hS y 8 h.symm) (by decide)
    | _ => first | rfl | cases h
  | st _ =>
    cases b with
    | sc y => exact absurd (hS y 7 h.symm) (by decide)
    | _ => first | rfl | cases h
  | sc x =>
    cases b with
    | sc y => exact scalarCmp_eq_compare fl x y ha hb h
    | arr _ | obj _ => cases fl <;> cases hb
    | nil => exact absurd (hS x 8 h) (by decide)
    | st _ => exact absurd (hS x 7 h) (by decide)

theorem preorderOn_of_coherent (fl : Bool) (key : V → V) (xs : List V)
    (h : ∀ v, v ∈ xs → coherent fl (key v) = true) :
    TotalPreorderOn xs (fun a b => sortLe (key a) (key b)) :=
  preorderOn_of_key (cmp := compare) (fun v => sk (key v)) fun a ha b hb => by
    rw [sortLe, sortCmp_eq_compare fl _ _ (h a ha) (h b hb), ne_gt_eq_isLE]

theorem nice2_of_nice_true {v : V} (h : nice true v = true) : nice2 v = true := by
  rcases v with _ | s | (i | f | bb | d | d | s) | xs | kvs <;> first | rfl | cases h

theorem sortLe_nil_left (b : V) : sortLe .nil b = b.isNil := by
  cases b <;> rfl

/-! ### sort_natural: the key comparator is a total preorder on everything -/

/-- nil keys last, the others by their text -/
def ckey : Option Str → Nat × Str
  | none => (1, [])
  | some s => (0, s)

theorem casecmp_eq_compare (a b : Option Str) : casecmp a b = some (compare (ckey a) (ckey b)) := by
  cases a <;> cases b <;> first | rfl | exact congrArg some (strCmp_eq_compare _ _)

theorem natural_preorderOn (lower : Str → Str) (key : V → V) (xs : List V) :
    TotalPreorderOn xs (fun a b => casecmpLe (casecmpKey lower (key a)) (casecmpKey lower (key b))) :=
  preorderOn_of_key (cmp := compare) (fun v => ckey (casecmpKey lower (key v))) fun a _ b _ => by
    rw [casecmpLe, casecmp_eq_compare, Option.getD_some, ne_gt_eq_isLE]

theorem casecmpLe_none_left (b : Option Str) : casecmpLe none b = b.isNone := by
  cases b <;> rfl

theorem sortNaturalBy_eq (lower : Str → Str) (key : V → V) (xs : List V) :
    sortNaturalBy lower key xs =
      xs.mergeSort (fun a b => casecmpLe (casecmpKey lower (key a)) (casecmpKey lower (key b))) := by
  unfold sortNaturalBy
  rw [map_mergeSort (s := fun a b => casecmpLe (casecmpKey lower (key a)) (casecmpKey lower (key b)))
    (f := fun p : Option Str × V => p.2)]
  · simp [Function.comp_def]
  · intro a ha b hb
    simp only [mem_map] at ha hb
    obtain ⟨v, _, rfl⟩ := ha
    obtain ⟨w, _, rfl⟩ := hb
    rfl

/-! ### the comparator of the pinned commit -/

theorem kindRank_eq_of_valueCmp {a b : V} {o : Ordering} (h : valueCmp a b = some o) : kindRank a = kindRank b := by
  have hF : ∀ {v w : FV}, v.cmp w = some o → nanRank v = nanRank w := by
    intro v w h; cases v <;> cases w <;> first | rfl | cases h
  cases a with
  | sc x =>
    cases b with
    -- a pair of scalar kinds either has one rank, or is not ordered, or involves a float
    | sc y => cases x <;> cases y <;> first | rfl | cases h | exact hF h
    | _ => cases h
  | arr _ | obj _ => cases b <;> first | rfl | cases h
  | nil | st _ => cases h

/-- what the repaired comparator calls "not greater" is never "greater" by the property's reading -/
theorem not_cmpGt_of_sortLe (a b : V) (h : sortLe a b = true) : cmpGt a b = false := by
  rw [sortLe, sortCmp_eq_then, ne_gt_eq_isLE] at h
  unfold cmpGt nilSafeCompareOld
  unfold rk at h
  cases ha : a.isNil <;> cases hb : b.isNil <;> simp only [ha, hb] at h ⊢
  · -- neither is nil: `Greater` needs equal ranks, and then the repaired comparator says `Greater` too
    cases hc : valueCmp a b with
    | none => rfl
    | some o =>
      rw [hc, kindRank_eq_of_valueCmp hc, Nat.compare_eq_eq.2 rfl] at h
      cases o <;> first | rfl | cases h
  · rfl
  · rw [if_pos trivial, if_neg Bool.false_ne_true, Nat.compare_eq_gt.2 (kindRank_lt b)] at h; cases h
  · rfl

/-! ### uniq -/

theorem uniqFrom_append (seen l1 l2 : List V) :
    uniqFrom seen (l1 ++ l2) = uniqFrom seen l1 ++ uniqFrom (seen ++ uniqFrom seen l1) l2 := by
  induction l1 generalizing seen with
  | nil => simp [uniqFrom]
  | cons y r ih =>
    simp only [cons_append, uniqFrom]
    split
    · exact ih seen
    · rw [ih (seen ++ [y])]; simp

theorem uniqFrom_sublist (seen xs : List V) : uniqFrom seen xs <+ xs := by
  induction xs generalizing seen with
  | nil => simp [uniqFrom]
  | cons y r ih =>
    simp only [uniqFrom]
    split
    · exact (ih seen).cons y
    · exact (ih _).cons_cons y

theorem uniqFrom_distinct (seen xs : List V) :
    (uniqFrom seen xs).Pairwise (fun a b => valueEq a b = false) ∧
    ∀ s, s ∈ seen → ∀ y, y ∈ uniqFrom seen xs → valueEq s y = false := by
  induction xs generalizing seen with
  | nil => simp [uniqFrom]
  | cons y r ih =>
    simp only [uniqFrom]
    split
    next => exact ih seen
    next hy =>
      obtain ⟨h1, h2⟩ := ih (seen ++ [y])
      refine ⟨pairwise_cons.mpr ⟨fun z hz => h2 y (by simp) z hz, h1⟩, ?_⟩
      intro s hs z hz
      rcases mem_cons.mp hz with rfl | hz
      · simp only [any_eq_true, not_exists, not_and, Bool.not_eq_true] at hy
        exact hy s hs
      · exact h2 s (by simp [hs]) z hz

theorem uniqFrom_covers (seen xs : List V) :
    ∀ x, x ∈ xs → (∃ k, k ∈ seen ++ uniqFrom seen xs ∧ valueEq k x = true) ∨ x ∈ uniqFrom seen xs := by
  induction xs generalizing seen with
  | nil => simp
  | cons y r ih =>
    intro x hx
    simp only [uniqFrom]
    split
    next hy =>
      rcases mem_cons.mp hx with rfl | hx
      · left
        simp only [any_eq_true] at hy
        obtain ⟨k, hk, hkx⟩ := hy
        exact ⟨k, by simp [hk], hkx⟩
      · exact ih seen x hx
    next =>
      rcases mem_cons.mp hx with rfl | hx
      · right; simp
      · rcases ih (seen ++ [y]) x hx with ⟨k, hk, hkx⟩ | h
        · left; exact ⟨k, by simpa using hk, hkx⟩
        · right; simp [h]

/-! ### slice -/

/-- the offset `canonicalize_slice` normalises to: clipped to the length, counted from the end when
negative -/
def normOff (off : Int) (n : Nat) : Int :=
  let o1 := if off ≤ (n : Int) then off else n
  if o1 < 0 then o1 + n else o1

theorem canonSlice_eq (off len : Int) (n : Nat) :
    canonSlice off len n =
      .ok (toUsize (normOff off n), toUsize (if normOff off n + len > n then n - normOff off n else len)) := rfl

theorem normOff_inside (off : Int) (n : Nat) (hoff : -(n : Int) ≤ off) :
    0 ≤ normOff off n ∧ normOff off n ≤ n ∧
      (normOff off n).toNat = (if 0 ≤ off then min off.toNat n else (n + off).toNat) := by
  simp only [normOff]
  split <;> split <;> split <;> omega

theorem canonSlice_list {α} (s : List α) (off len : Int) (h1 : 1 ≤ len) (hoff : -(s.length : Int) ≤ off) :
    ∃ o l, canonSlice off len s.length = .ok (o, l) ∧
      o = (if 0 ≤ off then min off.toNat s.length else (s.length + off).toNat) ∧
      (s.drop o).take l = (s.drop o).take len.toNat := by
  refine ⟨_, _, canonSlice_eq off len s.length, ?_⟩
  obtain ⟨h0, hn, hs⟩ := normOff_inside off s.length hoff
  generalize normOff off s.length = o at h0 hn hs ⊢
  -- the normalised offset is in `0 .. length`, so `as usize` changes nothing
  have e : toUsize o = o.toNat := if_neg (by omega)
  rw [e]
  refine ⟨hs, ?_⟩
  split
  · -- `len` reaches past the end: both sides take all that is left
    rw [show toUsize (s.length - o) = (s.drop o.toNat).length from
          (if_neg (by omega)).trans (by rw [length_drop]; omega),
      take_length, take_of_length_le (by rw [length_drop]; omega)]
  · rw [show toUsize len = len.toNat from if_neg (by omega)]

/-- the parameter occurs only in what a row returns -/
theorem filters_isSome (lower lower' : Str → Str) (name : Str) :
    (filters lower name).isSome = (filters lower' name).isSome := by
  unfold filters
  split <;> rfl

end Liquid.C14
