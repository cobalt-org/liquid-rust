/-
  C11 helper lemmas: scalars.  `scalar_eq` is symmetric, `scalar_cmp` dual and consistent with it;
  inside one kind `scalar_cmp` is transitive and `scalar_eq` an equivalence (the mixed rows —
  integer/float above 2^53, date/date-time, bool/anything — are not: see the `_counterexample`
  theorems of Props/C11.lean).
-/
import LiquidModel.Spec.C11
import LiquidModel.Lemmas.Order
namespace Liquid.C11L
open Liquid Liquid.C11

theorem swapO_swapO (o : Option Ordering) : swapO (swapO o) = o := by
  rcases o with _ | _ | _ | _ <;> rfl

theorem swapO_eq_some_eq (o : Option Ordering) : swapO o = some .eq ↔ o = some .eq := by
  rcases o with _ | _ | _ | _ <;> decide

theorem swapO_some (o : Ordering) : swapO (some o) = some o.swap := by cases o <;> rfl

theorem swapO_eq_some {o : Option Ordering} {o' : Ordering} (h : swapO o = some o') : o = some o'.swap := by
  rw [← swapO_swapO o, h, swapO_some]

theorem boolCmp_swap (a b : Bool) : boolCmp b a = (boolCmp a b).swap := by
  rw [boolCmp_eq_compare, boolCmp_eq_compare]; exact Std.OrientedCmp.eq_swap

theorem boolCmp_eq_iff (a b : Bool) : boolCmp a b = .eq ↔ a = b := by
  rw [boolCmp_eq_compare]; exact Std.compare_eq_iff_eq

theorem cmpInt_cases (a b : Int) :
    (compare a b = .lt ∧ a < b) ∨ (compare a b = .eq ∧ a = b) ∨ (compare a b = .gt ∧ b < a) := by
  rcases h : compare a b with _ | _ | _
  · exact Or.inl ⟨rfl, Int.compare_eq_lt.1 h⟩
  · exact Or.inr (Or.inl ⟨rfl, Int.compare_eq_eq.1 h⟩)
  · exact Or.inr (Or.inr ⟨rfl, Int.compare_eq_gt.1 h⟩)

theorem strCmp_cases (a b : Str) : strCmp a b = .lt ∨ strCmp a b = .eq ∨ strCmp a b = .gt := by
  cases strCmp a b <;> simp

theorem FV.eq_symm (a b : FV) : a.eq b = b.eq a := by
  cases a <;> cases b <;> first | rfl | exact BEq.comm

/-- the `Some` arms of `scalar_cmp` and `FV.cmp`: a comparator that swaps with its arguments -/
theorem some_dual {o o' : Ordering} (h : o' = o.swap) : some o' = swapO (some o) := h ▸ (swapO_some o).symm

theorem FV.cmp_dual (a b : FV) : b.cmp a = swapO (a.cmp b) := by
  cases a <;> cases b <;> first | rfl | exact some_dual (Int.compare_swap _ _).symm

theorem FV.cmp_eq_iff (a b : FV) : a.cmp b = some .eq ↔ a.eq b = true := by
  cases a <;> cases b <;> simp [FV.cmp, FV.eq]

theorem FV.eq_refl (a : FV) (h : a ≠ .nan) : a.eq a = true := by
  cases a <;> first | rfl | exact absurd rfl h | exact beq_self_eq_true _

theorem scalarEq_symm (x y : Sc) : scalarEq x y = scalarEq y x := by
  cases x <;> cases y <;> first | rfl | exact BEq.comm | exact FV.eq_symm _ _

theorem scalarCmp_dual (x y : Sc) : scalarCmp y x = swapO (scalarCmp x y) := by
  cases x <;> cases y <;>
    first
      | rfl
      | exact some_dual (Int.compare_swap _ _).symm
      | exact some_dual (boolCmp_swap _ _)
      | exact some_dual (strCmp_swap _ _)
      | exact FV.cmp_dual _ _

/-- An equality answer `E` and an ordering answer agree: where the order is defined, `E` holds exactly
when it says `Equal`.  The property's consistency law, stated at every level: scalars, entries,
lists, values. -/
def Agree (E : Prop) (c : Option Ordering) : Prop := ∀ o, c = some o → (E ↔ o = .eq)

theorem Agree.none {E : Prop} : Agree E none := fun _ h => nomatch h

theorem Agree.some {E : Prop} {o : Ordering} (h : E ↔ o = .eq) : Agree E (some o) :=
  fun _ e => Option.some.inj e ▸ h

theorem FV.agree (a b : FV) : Agree (a.eq b = true) (a.cmp b) :=
  fun o h => by rw [← FV.cmp_eq_iff, h, Option.some.injEq]

theorem scalarCmp_eq_iff (x y : Sc) : Agree (scalarEq x y = true) (scalarCmp x y) := by
  cases x <;> cases y <;>
    first
      | exact Agree.none
      | exact FV.agree _ _
      | exact Agree.some (beq_iff_eq.trans Int.compare_eq_eq.symm)
      | exact Agree.some (beq_iff_eq.trans (eq_comm.trans Int.compare_eq_eq.symm))
      | exact Agree.some (beq_iff_eq.trans (boolCmp_eq_iff _ _).symm)
      | exact Agree.some (beq_iff_eq.trans (strCmp_eq_iff _ _).symm)

theorem scalarEq_refl (x : Sc) (h : isNanFree (.sc x) = true) : scalarEq x x = true := by
  cases x with
  | flt f => exact FV.eq_refl _ fun hn => by simp only [isNanFree, hn] at h; cases h
  | _ => exact beq_self_eq_true _

/-- `Less` or `Equal`: what `<=` asks of `partial_cmp` -/
def leO (o : Option Ordering) : Bool := o == some .lt || o == some .eq

theorem leO_some (o : Ordering) : leO (some o) = o.isLE := by cases o <;> rfl
theorem leO_none : leO none = false := rfl

theorem FV.cmp_lt_trans {a b c : FV} (h1 : a.cmp b = some .lt) (h2 : b.cmp c = some .lt) : a.cmp c = some .lt := by
  cases a <;> cases b <;> cases c <;> simp_all [FV.cmp]
  exact Std.TransCmp.lt_trans h1 h2

theorem FV.cmp_le_trans {a b c : FV} (h1 : leO (a.cmp b) = true) (h2 : leO (b.cmp c) = true) :
    leO (a.cmp c) = true := by
  cases a <;> cases b <;> cases c <;> simp_all [FV.cmp, leO_some, leO_none]
  exact Std.TransCmp.isLE_trans h1 h2

theorem FV.eq_trans {a b c : FV} (h1 : a.eq b = true) (h2 : b.eq c = true) : a.eq c = true := by
  cases a <;> cases b <;> cases c <;> simp_all [FV.eq]

/-- a kind whose `scalar_eq` is `==` on a key and whose `scalar_cmp` compares the same key by a
transitive comparator -/
theorem key_trans {κ : Type} [BEq κ] [LawfulBEq κ] {cmp : κ → κ → Ordering} (hc : Std.TransCmp cmp) (a b c : κ) :
    ((a == b) = true → (b == c) = true → (a == c) = true) ∧
    (some (cmp a b) = some .lt → some (cmp b c) = some .lt → some (cmp a c) = some .lt) ∧
    (leO (some (cmp a b)) = true → leO (some (cmp b c)) = true → leO (some (cmp a c)) = true) := by
  simp only [beq_iff_eq, Option.some.injEq, leO_some]
  exact ⟨Eq.trans, Std.TransCmp.lt_trans, Std.TransCmp.isLE_trans⟩

/-- inside one kind: `scalar_eq` is transitive, `scalar_cmp` is a preorder.  Every kind but the floats
compares a key (the integer, the boolean, the instant, the day number, the text) by a core `compare`,
whose laws are core's. -/
theorem scalar_trans (x y z : Sc) (k1 : scKind x = scKind y) (k2 : scKind y = scKind z) :
    (scalarEq x y = true → scalarEq y z = true → scalarEq x z = true) ∧
    (scalarCmp x y = some .lt → scalarCmp y z = some .lt → scalarCmp x z = some .lt) ∧
    (leO (scalarCmp x y) = true → leO (scalarCmp y z) = true → leO (scalarCmp x z) = true) := by
  cases x <;> cases y <;> cases k1 <;> cases z <;> cases k2
  · exact key_trans (cmp := compare) inferInstance _ _ _
  · exact ⟨FV.eq_trans, FV.cmp_lt_trans, FV.cmp_le_trans⟩
  · exact key_trans boolCmp_transCmp _ _ _
  · exact key_trans (cmp := compare) inferInstance _ _ _
  · exact key_trans (cmp := compare) inferInstance _ _ _
  · exact key_trans strCmp_transCmp _ _ _

end Liquid.C11L
