/-
  The unary forms of the interpreter walk.  Any property of computations that holds for the
  primitives and is closed under `bind`, `capture` and the two frame pushes (an `MProp`) holds for
  `renderN`/`renderT` of every template.  First instances: a `StepRel` is a preorder on runtimes that
  every state-changing primitive respects; `Pres S m`, a property of the computation `m`, says that
  `m` takes every runtime to one that `S` relates it to (frame discipline, scoping, isolation: Shape,
  Scope, Isolate).  The sink simulation of C10 (Sink) is an `MProp` that is not of this kind.
-/
import LiquidModel.Lemmas.Interp
import LiquidModel.Lemmas.Monad
namespace Liquid

/-! ### properties of computations closed under the interpreter's combinators -/

/-- The unary form of `MRel`, with the same choice of primitives (see there why these and no others). -/
structure MProp where
  P : {α : Type} → M α → Prop
  pure : ∀ {α : Type} (a : α), P (Pure.pure a : M α)
  bind : ∀ {α β : Type} {m : M α} {f : α → M β}, P m → (∀ a, P (f a)) → P (m >>= f)
  lift : ∀ {α : Type} (r : Res α), P (M.lift r)
  emit : ∀ s, P (M.emit s)
  getSt : P M.getSt
  getRegs : P M.getRegs
  setRegs : ∀ g, P (M.setRegs g)
  setGlobalM : ∀ x v, P (Liquid.setGlobalM x v)
  setIndexM : ∀ x v, P (Liquid.setIndexM x v)
  capture : ∀ {m : M Unit}, P m → P (M.capture m)
  inPlain : ∀ {α : Type} (d : Obj) {m : M α}, P m → P (M.inFrames [.plain d] m)
  inSandbox : ∀ {α : Type} (root : Obj) {m : M α}, P m → P (M.inFrames [.global [], .sandbox root {}] m)

namespace MProp
variable (Q : MProp)

/-- a property as a relation that ignores its second argument -/
def toMRel : MRel where
  R := fun m _ => Q.P m
  S := Eq
  G := fun _ => True
  view := fun h => h ▸ NI.SameView.refl _
  plain := fun _ => trivial
  cast := fun _ => trivial
  pure := Q.pure
  bind := fun hm hk => Q.bind hm hk
  getSt := fun hk => Q.bind Q.getSt fun s => hk s s rfl
  lift := fun _ => Q.lift _
  emit := Q.emit
  getRegs := Q.getRegs
  setRegs := Q.setRegs
  setGlobalM := Q.setGlobalM
  setIndexM := Q.setIndexM
  capture := fun h => Q.capture h
  inPlain := fun d _ _ h => Q.inPlain d h
  inSandbox := fun root _ _ h => Q.inSandbox root h

end MProp

/-- **Interpreter induction.** Every `MProp` holds of the rendering of every element, for every
fuel — by induction on the fuel; the cases on the element are those of `MRel.renderN_succ`. -/
theorem MProp.renderN (Q : MProp) (env : Env) : ∀ fuel n, Q.P (renderN fuel env n)
  | 0, n => by rw [renderN_zero]; exact Q.lift _
  | fuel + 1, n =>
    have body : ∀ t, Q.P (renderT fuel env t) := fun t =>
      Q.toMRel.renderT env fuel fuel t fun m _ => MProp.renderN Q env fuel m
    Q.toMRel.renderN_succ env fuel fuel (fun _ _ _ => trivial) (fun _ _ => trivial) n (fun t _ => body t)
      (fun _ _ => trivial) (fun _ _ => ⟨trivial, fun t _ => body t⟩)

theorem MProp.renderT (Q : MProp) (env : Env) (fuel : Nat) (t : Tmpl) : Q.P (renderT fuel env t) :=
  Q.toMRel.renderT env fuel fuel t fun n _ => MProp.renderN Q env fuel n

/-! ### first instance: a preorder on runtimes respected by every step -/

/-- A reflexive, transitive relation between the runtime before and after a computation that
every state-changing primitive respects. -/
structure StepRel where
  R : Rt → Rt → Prop
  refl : ∀ rt, R rt rt
  trans : ∀ a b c, R a b → R b c → R a c
  setRegs : ∀ rt g, R rt (rt.setRegs g)
  setGlobal : ∀ rt k v ls, rt.layers.setGlobal k v = .ok ls → R rt { rt with layers := ls }
  setIndex : ∀ rt k v ls, rt.layers.setIndex k v = .ok ls → R rt { rt with layers := ls }
  framePlain : ∀ (d : Obj) rt rt', R { rt with layers := .plain d :: rt.layers } rt' →
    R rt { rt' with layers := rt'.layers.drop 1 }
  frameSandbox : ∀ (root : Obj) rt rt', R { rt with layers := .global [] :: .sandbox root {} :: rt.layers } rt' →
    R rt { rt' with layers := rt'.layers.drop 2 }

/-- `m` relates every start state to the state it ends in (whatever the outcome and the sink). -/
def Pres (S : StepRel) {α} (m : M α) : Prop := ∀ rt w, S.R rt (m rt w).2.1

def StepRel.toMProp (S : StepRel) : MProp where
  P := fun m => Pres S m
  pure := fun _ rt _ => S.refl rt
  bind := fun hm hf => M.bind_ends S.trans hm hf
  lift := fun _ rt _ => S.refl rt
  emit := by intro s rt w; unfold M.emit; cases w.write s <;> exact S.refl rt
  getSt := fun rt _ => S.refl rt
  getRegs := fun rt _ => S.refl rt
  setRegs := fun g rt _ => S.setRegs rt g
  setGlobalM := by
    intro x v rt w
    simp only [Liquid.setGlobalM, M.run_bind, M.run_getSt, M.run_lift]
    cases h : rt.layers.setGlobal x v <;> simp only [M.run_setLayers]
    · exact S.setGlobal rt x v _ h
    all_goals exact S.refl rt
  setIndexM := by
    intro x v rt w
    simp only [Liquid.setIndexM, M.run_bind, M.run_getSt, M.run_lift]
    cases h : rt.layers.setIndex x v <;> simp only [M.run_setLayers]
    · exact S.setIndex rt x v _ h
    all_goals exact S.refl rt
  capture := by
    intro m hm rt w
    have h := hm rt {}
    unfold M.capture
    rcases hr : m rt {} with ⟨r, rt', cw⟩
    rw [hr] at h
    cases r <;> exact h
  inPlain := fun d _ hm rt w => S.framePlain d rt _ (hm { rt with layers := .plain d :: rt.layers } w)
  inSandbox := fun root _ hm rt w =>
    S.frameSandbox root rt _ (hm { rt with layers := .global [] :: .sandbox root {} :: rt.layers } w)

theorem Pres.renderN (S : StepRel) (env : Env) (fuel : Nat) (n : Node) : Pres S (renderN fuel env n) :=
  MProp.renderN S.toMProp env fuel n

theorem Pres.renderT (S : StepRel) (env : Env) (fuel : Nat) (t : Tmpl) : Pres S (renderT fuel env t) :=
  MProp.renderT S.toMProp env fuel t

end Liquid
