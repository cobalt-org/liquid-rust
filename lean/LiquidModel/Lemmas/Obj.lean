/-
  Objects as finite maps: `objGet`, `objContains`, `objInsert` (`get`, `contains_key`, `insert` of
  the map behind an object) against each other.
-/
import LiquidModel.Model.Find
namespace Liquid

theorem C18.objGet_isSome_iff_contains (d : Obj) (k : Str) : (objGet d k).isSome = objContains d k := by
  induction d with
  | nil => rfl
  | cons kv r ih =>
    simp only [objGet, objContains, List.any_cons] at ih ⊢
    by_cases h : kv.1 = k <;> simp [h, ih]

theorem C18.objContains_iff_mem (d : Obj) (k : Str) : objContains d k = true ↔ k ∈ d.map (·.1) := by
  simp [objContains, List.mem_map]

theorem C18.objGet_of_not_contains {d : Obj} {k : Str} (h : objContains d k = false) : objGet d k = none := by
  rw [← C18.objGet_isSome_iff_contains] at h
  exact Option.not_isSome_iff_eq_none.mp (by simp [h])

theorem C18.contains_of_objGet {d : Obj} {k : Str} {w : V} (h : objGet d k = some w) : objContains d k = true := by
  rw [← C18.objGet_isSome_iff_contains, h]; rfl

theorem C18.objGet_insert (d : Obj) (k k' : Str) (v : V) :
    objGet (objInsert d k v) k' = if k = k' then some v else objGet d k' := by
  induction d with
  | nil => simp [objInsert, objGet]
  | cons kv r ih =>
    obtain ⟨k0, w⟩ := kv
    by_cases h : k0 = k
    · by_cases h' : k = k' <;> simp [objInsert, objGet, h, h']
    · have hk : (k0 == k) = false := by simpa using h
      by_cases h' : k0 = k'
      · subst h'; simp [objInsert, objGet, hk, Ne.symm h]
      · simp [objInsert, objGet, hk, h', ih]

theorem C18.objInsert_get (d : Obj) (k : Str) (v : V) : objGet (objInsert d k v) k = some v := by
  rw [C18.objGet_insert, if_pos rfl]

theorem C18.objInsert_get_other (d : Obj) (k k' : Str) (v : V) (h : k' ≠ k) :
    objGet (objInsert d k v) k' = objGet d k' := by
  rw [C18.objGet_insert, if_neg (Ne.symm h)]

theorem C18.objInsert_contains (d : Obj) (k : Str) (v : V) : objContains (objInsert d k v) k = true :=
  C18.contains_of_objGet (C18.objInsert_get d k v)

theorem C18.objContains_insert_other (d : Obj) (k k' : Str) (v : V) (h : objContains d k' = true) :
    objContains (objInsert d k v) k' = true := by
  rw [← C18.objGet_isSome_iff_contains] at h ⊢
  rw [C18.objGet_insert]
  split
  · rfl
  · exact h

theorem C18.objInsert_fresh (d : Obj) (k : Str) (v : V) (h : objContains d k = false) :
    objInsert d k v = d ++ [(k, v)] := by
  induction d with
  | nil => rfl
  | cons e r ih =>
    simp only [objContains, List.any_cons, Bool.or_eq_false_iff] at h
    simp [objInsert, h.1, ih h.2]

theorem C18.tryFind_single (d : Obj) (k : Str) (h : objContains d k = true) :
    tryFind (.obj d) [.str k] = objGet d k := by
  rw [← C18.objGet_isSome_iff_contains] at h
  simp only [tryFind, augGet, Sc.render]
  cases hg : objGet d k with
  | some w => rfl
  | none => rw [hg] at h; cases h

end Liquid
