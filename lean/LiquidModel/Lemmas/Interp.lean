/-
  One walk over the interpreter.  `renderN (fuel + 1) env n` is built from the primitives of the
  render monad, the pure evaluators and `renderT fuel env` on the bodies of `n`.  So a relation
  between computations that the primitives respect (`MRel`) relates `renderN (f1 + 1) env n` to
  `renderN (f2 + 1) env n` as soon as it relates `renderT f1 env` to `renderT f2 env` on those
  bodies (`MRel.renderN_succ`).  Unary properties (frames balanced, no panic, no fuel outcome, the
  sink simulation) are relations that ignore their second argument; fuel monotonicity takes
  `f2 = f1 + 1`; non-interference relates one computation to itself in two runtimes.
-/
import LiquidModel.Lemmas.Eval
import LiquidModel.Lemmas.Monad
namespace Liquid
open NI (SameView)

/-- the two counter overflows, which need 2^63 increments -/
def okPanic (s : String) : Bool := s == "increment: add overflow" || s == "decrement: sub overflow"

/-- the bodies an element renders with one unit of fuel less.  The wildcard takes a constructor added
to `Node` in silence, here and in `wfN`, `npN`, `dN`: a forgotten block shows only where its body is
asked for, in `renderN_succ` (`hsub`) and in `wfL_bodies`, `npL_bodies`, `dL_bodies`. -/
def Node.bodies : Node → List Tmpl
  | .capture _ b | .tablerow _ _ _ _ _ b | .ifchanged b => [b]
  | .cond _ _ t e | .for_ _ _ _ _ _ t e => t :: e.toList
  | .case_ _ arms e => arms.map (·.2) ++ e.toList
  | _ => []

/-- `include` and `render`: the elements that ask the partial store -/
def Node.isCall : Node → Bool
  | .include_ .. | .render_ .. => true
  | _ => false

/-- the number of columns of a `tablerow` over a non-empty selection: `cols:` if given (the tag has
refused `cols: 0` by then), else the whole selection in one row -/
theorem ncols_ne_zero {c : Option Nat} (hc : c ≠ some 0) (v : V) (r : List V) : c.getD (v :: r).length ≠ 0 := by
  cases c with
  | none => exact Nat.succ_ne_zero _
  | some k => exact fun hk => hc (congrArg some hk)

/-- `render` asks the store for `name`, then for `name.liquid` -/
theorem lookupPartialR_cases (env : Env) (name : Str) :
    lookupPartialR env name = env.lookup name ∨
      lookupPartialR env name = env.lookup (name ++ ".liquid".toList) := by
  unfold lookupPartialR lookupPartial
  cases env.lookup name <;> first | exact .inl rfl | exact .inr rfl

/-- the loop driver is built from `pure` and `bind` alone, so whatever relation these two respect it
respects (the interpreter's relations below, the caller's side of `render` in C08) -/
theorem loopItems_rel {R : {α : Type} → M α → M α → Prop} (pure : ∀ {α} (a : α), R (Pure.pure a : M α) (Pure.pure a))
    (bind : ∀ {α β} {m1 m2 : M α} {k1 k2 : α → M β}, R m1 m2 → (∀ a, R (k1 a) (k2 a)) → R (m1 >>= k1) (m2 >>= k2))
    {s1 s2 : V → Nat → M (Option Intr)} (hs : ∀ v i, R (s1 v i) (s2 v i)) :
    ∀ items i, R (loopItems s1 items i) (loopItems s2 items i)
  | [], _ => pure ()
  | v :: r, i => by
    unfold loopItems
    refine bind (hs v i) fun intr => ?_
    split
    · exact pure ()
    · exact loopItems_rel pure bind hs r (i + 1)

/-- A relation between computations that every primitive of the render monad respects.  The two
sides may read different stacks as long as these look alike (`S`); a pure result may be lifted if
the guard `G` accepts it, and values and Liquid errors are always accepted.

For whoever writes an instance.  The fields are the primitives as the interpreter uses them, no
more: `M.setLayers` occurs only inside `setGlobalM` / `setIndexM`, and `M.inFrames` only with a plain
frame (`for`, `tablerow`, `include`) or a fresh global frame over a sandboxed one (`render`).  The
sink simulation, the two fuel relations and non-interference hold of `M.inFrames` with any frames
(`SinkOk.inFrames`, `NF.inFrames`, `Mono.inFrames`, `NI2.inFrames`); the `StepRel` instances (frame
kinds, plain frames, isolation) can account for these two pushes only, and for no arbitrary
`M.setLayers`.  `getSt` comes with its continuation because the two sides get different stacks back,
which `bind` (one value for both continuations) cannot express. -/
structure MRel where
  R : {α : Type} → M α → M α → Prop
  S : Stack → Stack → Prop
  G : {α : Type} → Res α → Prop
  view : ∀ {s1 s2}, S s1 s2 → SameView s1 s2
  plain : ∀ {α} {r : Res α}, r.plain = true → G r
  /-- propagating an accepted failure (`castErr` only changes its type) -/
  cast : ∀ {α β} {r : Res α}, G r → G (M.castErr r : Res β)
  pure : ∀ {α} (a : α), R (Pure.pure a : M α) (Pure.pure a)
  bind : ∀ {α β} {m1 m2 : M α} {k1 k2 : α → M β}, R m1 m2 → (∀ a, R (k1 a) (k2 a)) → R (m1 >>= k1) (m2 >>= k2)
  getSt : ∀ {β} {k1 k2 : Stack → M β}, (∀ s1 s2, S s1 s2 → R (k1 s1) (k2 s2)) → R (M.getSt >>= k1) (M.getSt >>= k2)
  lift : ∀ {α} {r : Res α}, G r → R (M.lift r) (M.lift r)
  emit : ∀ s, R (M.emit s) (M.emit s)
  getRegs : R M.getRegs M.getRegs
  setRegs : ∀ g, R (M.setRegs g) (M.setRegs g)
  setGlobalM : ∀ x v, R (Liquid.setGlobalM x v) (Liquid.setGlobalM x v)
  setIndexM : ∀ x v, R (Liquid.setIndexM x v) (Liquid.setIndexM x v)
  capture : ∀ {m1 m2 : M Unit}, R m1 m2 → R (M.capture m1) (M.capture m2)
  inPlain : ∀ {α} (d : Obj) {m1 m2 : M α}, R m1 m2 → R (M.inFrames [.plain d] m1) (M.inFrames [.plain d] m2)
  inSandbox : ∀ {α} (root : Obj) {m1 m2 : M α}, R m1 m2 →
    R (M.inFrames [.global [], .sandbox root {}] m1) (M.inFrames [.global [], .sandbox root {}] m2)

namespace MRel
variable (Q : MRel)

theorem liftBind {α β} {r : Res α} {k1 k2 : α → M β} (hg : Q.G r) (hk : ∀ a, r = .ok a → Q.R (k1 a) (k2 a)) :
    Q.R (M.lift r >>= k1) (M.lift r >>= k2) := by
  cases r with
  | ok a => exact hk a rfl
  | _ => exact Q.lift (Q.cast hg)

theorem liftEval {α} {s1 s2 : Stack} (hv : Q.S s1 s2) {f : Stack → Res α} (hf : PureEval f) :
    Q.R (M.lift (f s1)) (M.lift (f s2)) := by
  rw [hf.low (Q.view hv)]; exact Q.lift (Q.plain (hf.plain s2))

theorem ite {α} {c : Prop} {_ : Decidable c} {a1 a2 b1 b2 : M α} (ha : Q.R a1 a2) (hb : Q.R b1 b2) :
    Q.R (if c then a1 else b1) (if c then a2 else b2) := by
  split <;> assumption

theorem setInterruptM (i : Option Intr) : Q.R (setInterruptM i) (setInterruptM i) :=
  Q.bind Q.getRegs fun _ => Q.setRegs _

theorem takeInterruptM : Q.R takeInterruptM takeInterruptM :=
  Q.bind Q.getRegs fun _ => Q.bind (Q.setRegs _) fun _ => Q.pure _

theorem renderList {f1 f2 : Node → M Unit} :
    ∀ t : Tmpl, (∀ n ∈ t, Q.R (f1 n) (f2 n)) → Q.R (renderList f1 t) (renderList f2 t)
  | [], _ => Q.pure ()
  | n :: r, hf => by
    unfold Liquid.renderList
    refine Q.bind (hf n List.mem_cons_self) fun _ => Q.bind Q.getRegs fun g => ?_
    split
    · exact Q.pure ()
    · exact renderList r fun m hm => hf m (List.mem_cons_of_mem _ hm)

theorem renderT (env : Env) (f1 f2 : Nat) (t : Tmpl) (h : ∀ n ∈ t, Q.R (renderN f1 env n) (renderN f2 env n)) :
    Q.R (renderT f1 env t) (renderT f2 env t) :=
  Q.renderList t h

theorem loopItems {s1 s2 : V → Nat → M (Option Intr)} (hs : ∀ v i, Q.R (s1 v i) (s2 v i)) (items : List V) (i : Nat) :
    Q.R (loopItems s1 items i) (loopItems s2 items i) :=
  loopItems_rel Q.pure Q.bind hs items i

theorem tableItems {s1 s2 : V → Nat → M Unit} (hs : ∀ v i, Q.R (s1 v i) (s2 v i)) :
    ∀ items i, Q.R (tableItems s1 items i) (tableItems s2 items i)
  | [], _ => Q.pure ()
  | v :: r, i => by
    unfold Liquid.tableItems
    exact Q.bind (hs v i) fun _ => tableItems hs r (i + 1)

theorem forStep (x : Str) (len : Nat) (parent : V) {b1 b2 : M Unit} (hb : Q.R b1 b2) (v : V) (i : Nat) :
    Q.R (forStep x len parent b1 v i) (forStep x len parent b2 v i) :=
  Q.inPlain _ (Q.bind hb fun _ => Q.takeInterruptM)

theorem renderForStep {s1 s2 : Stack} (hv : Q.S s1 s2) (args : List (Str × Expr)) (as_ : Str) (len : Nat)
    {b1 b2 : M Unit} (hb : Q.R b1 b2) (v : V) (i : Nat) :
    Q.R (renderForStep s1 args as_ len b1 v i) (renderForStep s2 args as_ len b2 v i) :=
  Q.bind (Q.liftEval hv (evalVars_pureEval args)) fun _ =>
    Q.inSandbox _ (Q.bind hb fun _ => Q.takeInterruptM)

/-- a cell of a table with at least one column: the remainder by zero is out of reach -/
theorem tablerowStep (x : Str) (len : Nat) {ncols : Nat} (hn : ncols ≠ 0) {b1 b2 : M Unit} (hb : Q.R b1 b2)
    (v : V) (i : Nat) : Q.R (tablerowStep x len ncols b1 v i) (tablerowStep x len ncols b2 v i) := by
  have h0 : ¬(ncols == 0) = true := by simpa using hn
  unfold Liquid.tablerowStep
  rw [if_neg h0, if_neg h0]
  -- the `do` block is compiled to `if first column then emit "<tr …>" >>= cell else cell ()`
  refine Q.ite (Q.bind (Q.emit _) fun _ => ?_) ?_ <;>
    exact Q.bind (Q.emit _) fun _ => Q.bind (Q.inPlain _ hb) fun _ => Q.bind (Q.emit _) fun _ =>
      Q.ite (Q.emit _) (Q.pure _)

/-- **The interpreter step respects `Q`**, given that `Q` relates the two renderings of the bodies
the element can reach: its own (`hsub`) and, for `include` / `render`, the templates the partial store
hands out (`hcall`).

What an instance owes besides the fields, and where the walk asks for it.  Everything the walk lifts
is a result of a `PureEval` evaluator or a literal `.err`, which `Q.plain` admits, except:
* `hchain`: a filter chain ends in whatever its last filter returned (`evalChain_cases`), so the
  guard must accept what the filters of `env` can return (`output`, `assign`);
* `hover`: the two counter overflows (`increment`, `decrement`), which nothing one can ask of a
  template excludes, so the guard has to admit them (`okPanic`);
* `hcycle`: `cycle`'s remainder by zero, reached exactly by a `cycle` without values, which the parser
  refuses: an instance either admits the panic or shows that the element is not such a `cycle`;
* `hcall`: what the partial store answers (`include`, `render`), with the relation on the templates
  it hands out — there is no structural reason for these to be smaller than the element.
`tablerow`'s remainder by zero is out of reach (`ncols_ne_zero`), and `set_global` / `set_index`
without their frame are the instance's business in `setGlobalM` / `setIndexM`. -/
theorem renderN_succ (env : Env) (f1 f2 : Nat)
    (hchain : ∀ s e fs, Q.G (evalChain env s e fs))
    (hover : ∀ s, okPanic s = true → Q.G (.panic s : Res Unit))
    (n : Node) (hsub : ∀ t ∈ n.bodies, Q.R (Liquid.renderT f1 env t) (Liquid.renderT f2 env t))
    (hcycle : ∀ name, n = .cycle name [] → Q.G (.panic "cycle: remainder by zero" : Res Unit))
    (hcall : n.isCall = true → ∀ name, Q.G (env.lookup name) ∧
      ∀ t, env.lookup name = .ok t → Q.R (Liquid.renderT f1 env t) (Liquid.renderT f2 env t)) :
    Q.R (renderN (f1 + 1) env n) (renderN (f2 + 1) env n) := by
  have orElse : ∀ e : Option Tmpl, (∀ t ∈ e.toList, Q.R (Liquid.renderT f1 env t) (Liquid.renderT f2 env t)) →
      Q.R (match e with | some t => Liquid.renderList (renderN f1 env) t | none => Pure.pure ())
          (match e with | some t => Liquid.renderList (renderN f2 env) t | none => Pure.pure ()) := by
    intro e he
    cases e with
    | none => exact Q.pure _
    | some t => exact he t (List.mem_singleton_self t)
  have chain : ∀ {s1 s2}, Q.S s1 s2 → ∀ e fs,
      Q.R (M.lift (evalChain env s1 e fs)) (M.lift (evalChain env s2 e fs)) := by
    intro s1 s2 hv e fs
    rw [NI.chain_low (Q.view hv)]; exact Q.lift (hchain s2 e fs)
  -- `rw [renderN]` unfolds one side at a time.  The equations of `renderN` for `if`, `case` and `for`
  -- come split by the shape of the `else` branch, so `rw` has none for a variable `els`; there
  -- `simp only [renderN]` unfolds both sides all the same.
  cases n with
  | text s | raw s => rw [renderN, renderN]; exact Q.emit _
  | comment => rw [renderN, renderN]; exact Q.pure _
  | brk | cont => rw [renderN, renderN]; exact Q.setInterruptM _
  | output e fs =>
    rw [renderN, renderN]
    exact Q.getSt fun _ _ hv => Q.bind (chain hv e fs) fun _ => Q.emit _
  | assign x e fs =>
    rw [renderN, renderN]
    exact Q.getSt fun _ _ hv => Q.bind (chain hv e fs) fun _ => Q.setGlobalM _ _
  | capture x b =>
    rw [renderN, renderN]
    exact Q.bind (Q.capture (hsub b (by simp [Node.bodies]))) fun _ => Q.setGlobalM _ _
  | incr x =>
    rw [renderN, renderN]
    refine Q.getSt fun s1 s2 hv => ?_
    rw [NI.counter_low (Q.view hv) x]
    refine Q.bind (Q.emit _) fun _ => ?_
    split
    · exact Q.lift (hover _ rfl)
    · exact Q.setIndexM _ _
  | decr x =>
    rw [renderN, renderN]
    refine Q.getSt fun s1 s2 hv => ?_
    rw [NI.counter_low (Q.view hv) x]
    dsimp only
    split
    · exact Q.lift (hover _ rfl)
    · exact Q.bind (Q.emit _) fun _ => Q.setIndexM _ _
  | cycle name vals =>
    rw [renderN, renderN]
    refine Q.bind Q.getRegs fun g => ?_
    split
    next h =>
      have : vals = [] := by
        cases vals with
        | nil => rfl
        | cons _ _ => simp [cycleStep] at h
      exact Q.lift (hcycle name (by rw [this]))
    next =>
      refine Q.bind (Q.setRegs _) fun _ => ?_
      split
      next => exact Q.lift (Q.plain rfl)
      next e _ => exact Q.getSt fun _ _ hv => Q.bind (Q.liftEval hv e.pureEval) fun _ => Q.emit _
  | cond c mode thn els =>
    simp only [renderN]
    refine Q.getSt fun _ _ hv => Q.bind (Q.liftEval hv c.pureEval) fun b => ?_
    split
    · exact hsub thn (by simp [Node.bodies])
    · exact orElse _ fun t ht => hsub t (by simp [Node.bodies, ht])
  | case_ target arms els =>
    simp only [renderN]
    refine Q.getSt fun s1 s2 hv => Q.bind (Q.liftEval hv target.pureEval) fun value => ?_
    -- `liftBind` and not `bind (liftEval …)`: the continuation needs `hp`, that this is what
    -- `casePick` returned, to place the picked body among `n.bodies`
    rw [(casePick_pureEval value arms).low (Q.view hv)]
    refine Q.liftBind (Q.plain ((casePick_pureEval value arms).plain s2)) fun pick hp => ?_
    cases pick with
    | some bd => exact hsub bd (List.mem_append_left _ ((casePick_spec s2 value arms).2 bd hp))
    | none => exact orElse _ fun t ht => hsub t (List.mem_append_right _ ht)
  | for_ x rng limit offset rev b els =>
    simp only [renderN]
    refine Q.getSt fun s1 s2 hv =>
      Q.bind (Q.liftEval hv rng.pureEval) fun arr =>
      Q.bind (Q.liftEval hv (evalAttr_pureEval limit)) fun lim =>
      Q.bind (Q.liftEval hv (evalAttr_pureEval offset)) fun off => ?_
    split
    · exact orElse _ fun t ht => hsub t (by simp [Node.bodies, ht])
    · rw [(Q.view hv).tryGet]
      exact Q.loopItems (Q.forStep _ _ _ (hsub b (by simp [Node.bodies]))) _ _
  | tablerow x rng cols limit offset b =>
    rw [renderN, renderN]
    refine Q.getSt fun s1 s2 hv =>
      Q.bind (Q.liftEval hv rng.pureEval) fun arr =>
      Q.bind (Q.liftEval hv (evalAttr_pureEval cols)) fun c => ?_
    split
    next => exact Q.lift (Q.plain rfl)
    next hc =>
      refine Q.bind (Q.liftEval hv (evalAttr_pureEval limit)) fun lim =>
        Q.bind (Q.liftEval hv (evalAttr_pureEval offset)) fun off => ?_
      generalize iterArray arr lim (off.getD 0) false = items
      cases items with
      | nil => exact Q.pure ()
      | cons v r =>
        have hn : c.getD (v :: r).length ≠ 0 := ncols_ne_zero (fun h => hc (by rw [h]; rfl)) v r
        exact Q.tableItems (Q.tablerowStep _ _ hn (hsub b (by simp [Node.bodies]))) _ _
  | ifchanged b =>
    rw [renderN, renderN]
    exact Q.bind (Q.capture (hsub b (by simp [Node.bodies]))) fun s => Q.bind Q.getRegs fun g =>
      Q.bind (Q.setRegs _) fun _ => Q.ite (Q.emit _) (Q.pure _)
  | include_ name args =>
    rw [renderN, renderN]
    refine Q.getSt fun _ _ hv => Q.bind (Q.liftEval hv name.pureEval) fun v => ?_
    split
    · exact Q.bind (Q.liftEval hv (evalVars_pureEval args)) fun _ =>
        Q.liftBind (hcall rfl _).1 fun t ht => Q.inPlain _ ((hcall rfl _).2 t ht)
    · exact Q.lift (Q.plain rfl)
  | render_ name form args =>
    rw [renderN, renderN]
    refine Q.getSt fun _ _ hv => Q.bind (Q.liftEval hv name.pureEval) fun v => ?_
    split
    next s =>
      have hR : Q.G (lookupPartialR env s.render) ∧
          ∀ t, lookupPartialR env s.render = .ok t → Q.R (Liquid.renderT f1 env t) (Liquid.renderT f2 env t) := by
        rcases lookupPartialR_cases env s.render with h | h <;> rw [h] <;> exact hcall rfl _
      split
      · exact Q.bind (Q.liftEval hv (RangeE.pureEval _)) fun _ =>
          Q.loopItems (Q.renderForStep hv _ _ _ (Q.liftBind hR.1 fun t ht => hR.2 t ht)) _ _
      · exact Q.bind (Q.liftEval hv (evalVars_pureEval _)) fun _ =>
          Q.liftBind hR.1 fun t ht => Q.inSandbox _ (hR.2 t ht)
    next => exact Q.lift (Q.plain rfl)

end MRel

end Liquid
