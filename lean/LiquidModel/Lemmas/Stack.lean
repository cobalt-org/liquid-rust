/-
  What the lookups, `set_global`, `set_index` and the register accessors do to a frame stack, said
  once.  Lookups: the equation of `try_get`, `get` and `roots` on `l :: r`; `get` fails exactly
  where `try_get` finds nothing.  Writes: each replaces one frame — the first global frame, the
  first counter frame, the first sandboxed frame — by a frame of the same kind and leaves the rest
  alone, so the invariants of the interpreter (frame kinds, plain frames, names of global frames,
  what lies below a sandbox) are facts about `a ++ x :: b` against `a ++ x' :: b`.  Registers: what
  was written is read back, and popping a frame that is not sandboxed leaves them as they were.
-/
import LiquidModel.Lemmas.Obj
namespace Liquid

/-- A layer that is not a global layer forwards `set_global` to its parent unchanged. -/
def C18.notGlobal : Layer → Bool | .global _ => false | _ => true
def C18.notIndex : Layer → Bool | .index _ => false | _ => true

open C18 (notGlobal notIndex)

def Layer.kind : Layer → Nat
  | .plain _ => 0 | .sandbox _ _ => 1 | .global _ => 2 | .index _ => 3

def Stack.shape (st : Stack) : List Nat := st.map Layer.kind

theorem Stack.shape_append (a b : Stack) : Stack.shape (a ++ b) = a.shape ++ b.shape := List.map_append

theorem Stack.shape_append_cons (a b : Stack) {x x' : Layer} (h : x'.kind = x.kind) :
    Stack.shape (a ++ x' :: b) = Stack.shape (a ++ x :: b) := by
  simp [Stack.shape, h]

theorem Stack.shape_drop {ls st st' : Stack} (h : st'.shape = Stack.shape (ls ++ st)) :
    Stack.shape (st'.drop ls.length) = st.shape := by
  simp only [Stack.shape, List.map_drop, List.map_append] at h ⊢
  rw [h]
  exact List.drop_left' (List.length_map _)

theorem exists_of_any_all {α} {l : List α} {p q : α → Bool} (hp : l.any p = true) (hq : l.all q = true) :
    ∃ x, p x = true ∧ q x = true :=
  let ⟨x, hx, hpx⟩ := List.any_eq_true.mp hp
  ⟨x, hpx, List.all_eq_true.mp hq x hx⟩

theorem all_or_split {α} (p : α → Bool) : ∀ l : List α,
    l.all p = true ∨ ∃ a x b, a.all p = true ∧ p x = false ∧ l = a ++ x :: b
  | [] => .inl rfl
  | y :: r => by
    cases hy : p y with
    | false => exact .inr ⟨[], y, r, rfl, hy, rfl⟩
    | true =>
      rcases all_or_split p r with h | ⟨a, x, b, ha, hx, rfl⟩
      · exact .inl (by rw [List.all_cons, hy, h]; rfl)
      · exact .inr ⟨y :: a, x, b, by rw [List.all_cons, hy, ha]; rfl, hx, rfl⟩

theorem Stack.any_kind {f : Layer → Bool} {g : Nat → Bool} (h : ∀ l, f l = g l.kind) (st : Stack) :
    st.any f = st.shape.any g := by
  rw [funext h, Stack.shape, List.any_map]; rfl

theorem getElem?_append_cons {α} {a b : List α} {x y : α} {i : Nat} (x' : α)
    (h : (a ++ x :: b)[i]? = some y) :
    (y = x ∧ (a ++ x' :: b)[i]? = some x') ∨ (a ++ x' :: b)[i]? = some y := by
  induction a generalizing i with
  | nil =>
    cases i with
    | zero => exact .inl ⟨(Option.some.inj h).symm, rfl⟩
    | succ n => exact .inr h
  | cons c r ih =>
    cases i with
    | zero => exact .inr h
    | succ n => exact ih h

/-! ### lookups: the equation of each operation on `l :: r`

Every frame answers from its own dictionary; the kinds differ only in whether a miss is handed to
the frames below (`plain`, `global`, `index`) or ends the search (`sandbox`). -/

def C18.ofOpt : Option V → Res V
  | some v => .ok v
  | none => .err

/-- `find` never reaches its final `panic!` (after the `fix:` commit that lets the search for a
resolvable prefix go down to the empty prefix, the value itself): it returns what `try_find` finds,
or an error — for every value and every path, also when the first key does not exist. -/
theorem C18.find_eq_ofOpt (v : V) (path : List Sc) : find v path = C18.ofOpt (tryFind v path) := by
  unfold find
  cases hf : tryFind v path with
  | some r => rfl
  | none =>
    cases path with
    | nil => simp [tryFind] at hf
    | cons k p =>
      -- the candidate `c = length` is the empty prefix, which always resolves
      refine if_pos (List.any_eq_true.mpr ⟨(k :: p).length, ?_, by simp [tryFind]⟩)
      simp only [List.mem_range', List.length_cons]
      exact ⟨p.length, by omega, by omega⟩

def Layer.notSandbox : Layer → Bool | .sandbox _ _ => false | _ => true

def Layer.dict : Layer → Obj
  | .plain d | .global d | .index d | .sandbox d _ => d

theorem Stack.tryGet_cons (l : Layer) (r : Stack) (k : Sc) (p : List Sc) :
    Stack.tryGet (l :: r) (k :: p) =
      if objContains l.dict k.render then tryFind (.obj l.dict) (k :: p)
      else if l.notSandbox then r.tryGet (k :: p) else none := by
  cases l <;> simp only [Stack.tryGet, pathKey, List.head?, Option.map, Layer.dict, Layer.notSandbox,
    Bool.false_eq_true, if_false, if_true]
  -- the sandboxed frame asks `objGet`, the others `objContains`
  case sandbox d _ =>
    rw [← C18.objGet_isSome_iff_contains]
    cases objGet d k.render <;> rfl

theorem C18.get_cons (l : Layer) (r : Stack) (k : Sc) (p : List Sc) :
    Stack.get (l :: r) (k :: p) =
      if objContains l.dict k.render then C18.ofOpt (tryFind (.obj l.dict) (k :: p))
      else if l.notSandbox then r.get (k :: p) else .err := by
  cases l <;> simp only [Stack.get, pathKey, List.head?, Option.map, Layer.dict, Layer.notSandbox,
    C18.find_eq_ofOpt, Bool.false_eq_true, if_false, if_true]
  case sandbox d _ =>
    rw [← C18.objGet_isSome_iff_contains]
    cases objGet d k.render <;> rfl

theorem Stack.get_tryGet (st : Stack) (path : List Sc) : st.get path = C18.ofOpt (st.tryGet path) := by
  induction st with
  | nil => cases path <;> rfl
  | cons l r ih =>
    cases path with
    | nil => cases l <;> rfl
    | cons k p =>
      rw [C18.get_cons, Stack.tryGet_cons, ih]
      cases objContains l.dict k.render <;> cases l.notSandbox <;> rfl

theorem Stack.tryGet_name_cons (l : Layer) (r : Stack) (k : Str) :
    Stack.tryGet (l :: r) [.str k] = match objGet l.dict k with
      | some w => some w
      | none => if l.notSandbox then r.tryGet [.str k] else none := by
  rw [Stack.tryGet_cons, Sc.render, ← C18.objGet_isSome_iff_contains]
  cases h : objGet l.dict k with
  | none => rfl
  | some w => simp [tryFind, augGet, Sc.render, h]

theorem Stack.roots_cons (l : Layer) (r : Stack) :
    Stack.roots (l :: r) = (if l.notSandbox then r.roots else []) ++ l.dict.map (·.1) := by
  cases l <;> simp [Stack.roots, Layer.dict, Layer.notSandbox]

/-! ### writes: `set_global` and `set_index` pass the frames of other kinds and replace the first of their own -/

theorem Stack.setGlobal_cons {l : Layer} (hl : notGlobal l = true) (r : Stack) (k : Str) (v : V) :
    Stack.setGlobal (l :: r) k v = (do let r' ← Stack.setGlobal r k v; pure (l :: r')) := by
  cases l <;> first | rfl | cases hl

theorem Stack.setGlobal_through {a : Stack} (ha : a.all notGlobal = true) (b : Stack) (k : Str) (v : V) :
    Stack.setGlobal (a ++ b) k v = (do let r' ← Stack.setGlobal b k v; pure (a ++ r')) := by
  induction a with
  | nil => show Stack.setGlobal b k v = _; cases Stack.setGlobal b k v <;> rfl
  | cons l r ih =>
    rw [List.all_cons, Bool.and_eq_true] at ha
    rw [List.cons_append, Stack.setGlobal_cons ha.1, ih ha.2]
    cases Stack.setGlobal b k v <;> rfl

theorem Stack.setGlobal_append {a : Stack} (ha : a.all notGlobal = true) (g : Obj) (b : Stack) (k : Str) (v : V) :
    Stack.setGlobal (a ++ .global g :: b) k v = .ok (a ++ .global (objInsert g k v) :: b) := by
  rw [Stack.setGlobal_through ha]; rfl

theorem Stack.setGlobal_cases (st : Stack) (k : Str) (v : V) :
    (∃ a g b, a.all notGlobal = true ∧ st = a ++ .global g :: b ∧
        st.setGlobal k v = .ok (a ++ .global (objInsert g k v) :: b)) ∨
      (st.all notGlobal = true ∧ ∃ s, st.setGlobal k v = .panic s) := by
  rcases all_or_split notGlobal st with h | ⟨a, x, b, ha, hx, rfl⟩
  · have := Stack.setGlobal_through h [] k v
    rw [List.append_nil] at this
    exact .inr ⟨h, _, this⟩
  · obtain ⟨g, rfl⟩ : ∃ g, x = .global g := by cases x <;> first | exact ⟨_, rfl⟩ | cases hx
    exact .inl ⟨a, g, b, ha, rfl, Stack.setGlobal_append ha g b k v⟩

theorem Stack.setGlobal_ok {st st' : Stack} {k : Str} {v : V} (h : st.setGlobal k v = .ok st') :
    ∃ a g b, a.all notGlobal = true ∧ st = a ++ .global g :: b ∧ st' = a ++ .global (objInsert g k v) :: b := by
  rcases Stack.setGlobal_cases st k v with ⟨a, g, b, ha, hst, hr⟩ | ⟨_, s, hs⟩
  · exact ⟨a, g, b, ha, hst, Res.ok.inj (h.symm.trans hr)⟩
  · rw [hs] at h; cases h

theorem Stack.setIndex_cons {l : Layer} (hl : notIndex l = true) (r : Stack) (k : Str) (v : V) :
    Stack.setIndex (l :: r) k v = (do let r' ← Stack.setIndex r k v; pure (l :: r')) := by
  cases l <;> first | rfl | cases hl

theorem Stack.setIndex_through {a : Stack} (ha : a.all notIndex = true) (b : Stack) (k : Str) (v : V) :
    Stack.setIndex (a ++ b) k v = (do let r' ← Stack.setIndex b k v; pure (a ++ r')) := by
  induction a with
  | nil => show Stack.setIndex b k v = _; cases Stack.setIndex b k v <;> rfl
  | cons l r ih =>
    rw [List.all_cons, Bool.and_eq_true] at ha
    rw [List.cons_append, Stack.setIndex_cons ha.1, ih ha.2]
    cases Stack.setIndex b k v <;> rfl

theorem Stack.setIndex_append {a : Stack} (ha : a.all notIndex = true) (c : Obj) (b : Stack) (k : Str) (v : V) :
    Stack.setIndex (a ++ .index c :: b) k v = .ok (a ++ .index (objInsert c k v) :: b) := by
  rw [Stack.setIndex_through ha]; rfl

theorem Stack.setIndex_cases (st : Stack) (k : Str) (v : V) :
    (∃ a c b, a.all notIndex = true ∧ st = a ++ .index c :: b ∧
        st.setIndex k v = .ok (a ++ .index (objInsert c k v) :: b)) ∨
      (st.all notIndex = true ∧ ∃ s, st.setIndex k v = .panic s) := by
  rcases all_or_split notIndex st with h | ⟨a, x, b, ha, hx, rfl⟩
  · have := Stack.setIndex_through h [] k v
    rw [List.append_nil] at this
    exact .inr ⟨h, _, this⟩
  · obtain ⟨c, rfl⟩ : ∃ c, x = .index c := by cases x <;> first | exact ⟨_, rfl⟩ | cases hx
    exact .inl ⟨a, c, b, ha, rfl, Stack.setIndex_append ha c b k v⟩

theorem Stack.setIndex_ok {st st' : Stack} {k : Str} {v : V} (h : st.setIndex k v = .ok st') :
    ∃ a c b, a.all notIndex = true ∧ st = a ++ .index c :: b ∧ st' = a ++ .index (objInsert c k v) :: b := by
  rcases Stack.setIndex_cases st k v with ⟨a, c, b, ha, hst, hr⟩ | ⟨_, s, hs⟩
  · exact ⟨a, c, b, ha, hst, Res.ok.inj (h.symm.trans hr)⟩
  · rw [hs] at h; cases h

/-! ### registers: those of the first sandboxed frame, else the core's -/

theorem Stack.regs_append {a : Stack} (ha : a.all Layer.notSandbox = true) (b : Stack) (core : Regs) :
    Stack.regs (a ++ b) core = Stack.regs b core := by
  induction a with
  | nil => rfl
  | cons l r ih =>
    rw [List.all_cons, Bool.and_eq_true] at ha
    cases l with
    | sandbox d q => cases ha.1
    | _ => exact ih ha.2

theorem Stack.setRegs_append {a : Stack} (ha : a.all Layer.notSandbox = true) (b : Stack) (core g : Regs) :
    Stack.setRegs (a ++ b) core g = (a ++ (Stack.setRegs b core g).1, (Stack.setRegs b core g).2) := by
  induction a with
  | nil => rfl
  | cons l r ih =>
    rw [List.all_cons, Bool.and_eq_true] at ha
    cases l with
    | sandbox d q => cases ha.1
    | _ => simp only [List.cons_append, Stack.setRegs, ih ha.2]

theorem Stack.setRegs_cases (st : Stack) (core g : Regs) :
    (∃ a d q b, a.all Layer.notSandbox = true ∧ st = a ++ .sandbox d q :: b ∧
        st.setRegs core g = (a ++ .sandbox d g :: b, core)) ∨
      (st.all Layer.notSandbox = true ∧ st.setRegs core g = (st, g)) := by
  rcases all_or_split Layer.notSandbox st with h | ⟨a, x, b, ha, hx, rfl⟩
  · have := Stack.setRegs_append h [] core g
    rw [List.append_nil] at this
    exact .inr ⟨h, this.trans (congrArg (·, g) (List.append_nil st))⟩
  · obtain ⟨d, q, rfl⟩ : ∃ d q, x = .sandbox d q := by cases x <;> first | exact ⟨_, _, rfl⟩ | cases hx
    exact .inl ⟨a, d, q, b, ha, rfl, Stack.setRegs_append ha _ core g⟩

theorem Stack.regs_setRegs (st : Stack) (core g : Regs) :
    (st.setRegs core g).1.regs (st.setRegs core g).2 = g := by
  induction st with
  | nil => rfl
  | cons l r ih =>
    cases l with
    | sandbox d q => rfl
    | _ => exact ih

theorem Rt.regs_setRegs (rt : Rt) (g : Regs) : (rt.setRegs g).regs = g :=
  Stack.regs_setRegs rt.layers rt.core g

theorem Rt.setRegs_regs (rt : Rt) : rt.setRegs rt.regs = rt := by
  obtain ⟨st, core⟩ := rt
  unfold Rt.setRegs Rt.regs
  rcases Stack.setRegs_cases st core (Stack.regs st core) with ⟨a, d, q, b, ha, rfl, hr⟩ | ⟨hn, hr⟩
  · -- what is read are the registers `q` of the first sandboxed frame
    have hq : Stack.regs (a ++ .sandbox d q :: b) core = q := Stack.regs_append ha _ core
    rw [hq] at hr ⊢
    rw [hr]
  · have hc : Stack.regs st core = core := by
      have := Stack.regs_append hn [] core
      rwa [List.append_nil] at this
    rw [hr, hc]

/-- `k ≠ 1`: the frame that is popped is not sandboxed (`Layer.kind`) -/
theorem Rt.regs_pop {rt : Rt} {k : Nat} {s : List Nat} (h : rt.layers.shape = k :: s) (hk : k ≠ 1) :
    ({ rt with layers := rt.layers.drop 1 } : Rt).regs = rt.regs := by
  obtain ⟨ls, core⟩ := rt
  cases ls with
  | nil => cases h
  | cons l r =>
    cases l with
    | sandbox d q => cases h; exact absurd rfl hk
    | _ => rfl

end Liquid
