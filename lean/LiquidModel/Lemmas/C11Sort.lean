/-
  C11 helper lemmas: key-sorted entry lists (`insK`, `sortK`), lookups, permutations.
-/
import LiquidModel.Spec.C11
import LiquidModel.Lemmas.Order
namespace Liquid.C11L
open Liquid Liquid.C11

variable {α β : Type}

def keysOf (l : List (Str × α)) : List Str := l.map (·.1)

def leK (e e' : Str × α) : Prop := strCmp e.1 e'.1 ≠ .gt
def ltK (e e' : Str × α) : Prop := strCmp e.1 e'.1 = .lt

theorem insK_perm (k : Str) (a : α) (l : List (Str × α)) : (insK k a l).Perm ((k, a) :: l) := by
  induction l with
  | nil => simp [insK]
  | cons x r ih =>
    cases x with | mk k' b =>
    simp only [insK]
    split
    · exact (List.Perm.cons _ ih).trans (List.Perm.swap _ _ _)
    · exact List.Perm.refl _

theorem mem_insK (k : Str) (a : α) (l : List (Str × α)) (e : Str × α) :
    e ∈ insK k a l ↔ e = (k, a) ∨ e ∈ l := by
  rw [(insK_perm k a l).mem_iff, List.mem_cons]

theorem sortK_perm (l : List (Str × α)) : (sortK l).Perm l := by
  induction l with
  | nil => simp [sortK]
  | cons x r ih =>
    cases x with | mk k a =>
    simp only [sortK]
    exact (insK_perm k a _).trans (List.Perm.cons _ ih)

theorem mem_sortK (l : List (Str × α)) (e : Str × α) : e ∈ sortK l ↔ e ∈ l := (sortK_perm l).mem_iff

theorem length_sortK (l : List (Str × α)) : (sortK l).length = l.length := (sortK_perm l).length_eq

theorem insK_sorted (k : Str) (a : α) (l : List (Str × α)) (h : l.Pairwise leK) :
    (insK k a l).Pairwise leK := by
  induction l with
  | nil => simp [insK]
  | cons x r ih =>
    cases x with | mk k' b =>
    simp only [insK]
    rw [List.pairwise_cons] at h
    split
    next hgt =>
      -- `k` goes somewhere behind `k'`, which is below `k` and was below the rest
      have hlt : strCmp k' k = .lt := (strCmp_gt_iff k k').1 (beq_iff_eq.1 hgt)
      refine List.pairwise_cons.2 ⟨fun e he => ?_, ih h.2⟩
      rcases (mem_insK k a r e).1 he with rfl | he
      · exact fun hgt' => nomatch hlt.symm.trans hgt'
      · exact h.1 e he
    next hgt =>
      -- `k` goes in front: it is below `k'`, hence below the rest
      have hle : strCmp k k' ≠ .gt := fun hc => hgt (beq_iff_eq.2 hc)
      refine List.pairwise_cons.2 ⟨fun e he => ?_, List.pairwise_cons.2 h⟩
      rcases List.mem_cons.1 he with rfl | he
      · exact hle
      · exact strCmp_le_trans hle (h.1 e he)

theorem sortK_sorted (l : List (Str × α)) : (sortK l).Pairwise leK := by
  induction l with
  | nil => simp [sortK]
  | cons x r ih => cases x with | mk k a => exact insK_sorted k a _ ih

theorem keysOf_perm {l l' : List (Str × α)} (h : l.Perm l') : (keysOf l).Perm (keysOf l') := h.map _

theorem keysOf_cons (k : Str) (x : V) (xs : Obj) : keysOf ((k, x) :: xs) = k :: keysOf xs := rfl

theorem keysOf_sortK (l : Obj) : (keysOf (sortK l)).Perm (keysOf l) := keysOf_perm (sortK_perm l)

theorem nodup_keys_perm {l l' : List (Str × α)} (h : l.Perm l') (hn : (keysOf l).Nodup) : (keysOf l').Nodup :=
  (keysOf_perm h).nodup_iff.1 hn

theorem sortK_strict (l : List (Str × α)) (h : (keysOf l).Nodup) : (sortK l).Pairwise ltK := by
  have hn : (sortK l).Pairwise (fun e e' => e.1 ≠ e'.1) :=
    List.pairwise_map.1 (nodup_keys_perm (sortK_perm l).symm h)
  refine ((sortK_sorted l).and hn).imp ?_
  intro e e' ⟨h1, h2⟩
  unfold leK at h1; unfold ltK
  rcases hc : strCmp e.1 e'.1 with _ | _ | _
  · rfl
  · exact absurd ((strCmp_eq_iff _ _).1 hc) h2
  · exact absurd hc h1

theorem keys_strict {l : List (Str × α)} (h : l.Pairwise ltK) : (keysOf l).Pairwise (fun a b => strCmp a b = .lt) :=
  List.pairwise_map.2 h

theorem nodup_of_strict {l : List (Str × α)} (h : l.Pairwise ltK) : (keysOf l).Nodup := by
  refine (keys_strict h).imp ?_
  intro a b hab e; subst e; rw [strCmp_refl] at hab; cases hab

theorem eq_of_perm_of_strict {l l' : List (Str × α)} (hp : l.Perm l') (h : l.Pairwise ltK) (h' : l'.Pairwise ltK) :
    l = l' :=
  List.Perm.eq_of_pairwise (fun _ _ _ _ hab hba => absurd hba (strCmp_lt_asymm hab)) h h' hp

theorem sortK_eq_of_perm {l l' : List (Str × α)} (hp : l.Perm l') (hn : (keysOf l).Nodup) : sortK l = sortK l' :=
  eq_of_perm_of_strict (((sortK_perm l).trans hp).trans (sortK_perm l').symm)
    (sortK_strict l hn) (sortK_strict l' (nodup_keys_perm hp hn))

theorem insK_of_le (k : Str) (a : α) (l : List (Str × α)) (h : ∀ e ∈ l, strCmp k e.1 ≠ .gt) :
    insK k a l = (k, a) :: l := by
  cases l with
  | nil => rfl
  | cons x r =>
    cases x with | mk k' b =>
    simp only [insK]
    split
    next hgt => exact absurd (beq_iff_eq.1 hgt) (h (k', b) (.head _))
    next => rfl

theorem sortK_of_sorted (l : List (Str × α)) (h : l.Pairwise leK) : sortK l = l := by
  induction l with
  | nil => rfl
  | cons x r ih =>
    cases x with | mk k a =>
    rw [List.pairwise_cons] at h
    simp only [sortK]
    rw [ih h.2]
    exact insK_of_le k a r (fun e he => h.1 e he)

theorem sortK_idem (l : List (Str × α)) : sortK (sortK l) = sortK l := sortK_of_sorted _ (sortK_sorted l)

def mapV (f : α → β) (l : List (Str × α)) : List (Str × β) := l.map (fun e => (e.1, f e.2))

theorem insK_mapV (f : α → β) (k : Str) (a : α) (l : List (Str × α)) :
    insK k (f a) (mapV f l) = mapV f (insK k a l) := by
  induction l with
  | nil => rfl
  | cons x r ih =>
    cases x with | mk k' b =>
    simp only [mapV, List.map_cons, insK] at ih ⊢
    split
    · simp only [List.map_cons]; rw [← ih]
    · rfl

theorem sortK_mapV (f : α → β) (l : List (Str × α)) : sortK (mapV f l) = mapV f (sortK l) := by
  induction l with
  | nil => rfl
  | cons x r ih =>
    cases x with | mk k a =>
    simp only [mapV, List.map_cons, sortK] at ih ⊢
    rw [ih]; exact insK_mapV f k a _

theorem keysOf_mapV (f : α → β) (l : List (Str × α)) : keysOf (mapV f l) = keysOf l := by
  simp [keysOf, mapV]

theorem cmpFns_eq (xs : Obj) : cmpFns xs = mapV valueCmp xs := by
  induction xs with
  | nil => rfl
  | cons e r ih => cases e with | mk k x => simp [cmpFns, mapV, ih]

theorem canonO_eq (xs : Obj) : canonO xs = mapV canon xs := by
  induction xs with
  | nil => rfl
  | cons e r ih => cases e with | mk k x => simp [canonO, mapV, ih]

theorem canonL_eq (xs : List V) : canonL xs = xs.map canon := by
  induction xs with
  | nil => rfl
  | cons e r ih => simp [canonL, ih]

theorem keysNodup_iff (l : List Str) : keysNodup l = true ↔ l.Nodup := by
  induction l with
  | nil => simp [keysNodup]
  | cons k r ih => simp [keysNodup, ih, List.nodup_cons]

theorem keys_eq_keysOf (l : Obj) : keys l = keysOf l := rfl

theorem objGet_cons (k' : Str) (w : V) (r : Obj) (k : Str) :
    objGet ((k', w) :: r) k = if k' = k then some w else objGet r k := by
  rw [objGet]
  by_cases h : k' = k <;> simp [h]

theorem objGet_of_mem (l : Obj) (hn : (keysOf l).Nodup) {k : Str} {v : V} (h : (k, v) ∈ l) : objGet l k = some v := by
  induction l with
  | nil => cases h
  | cons x r ih =>
    cases x with | mk k' w =>
    rw [objGet_cons]
    simp only [keysOf, List.map_cons, List.nodup_cons] at hn
    rcases List.mem_cons.1 h with h | h
    · cases h
      exact if_pos rfl
    · have : k' ≠ k := by
        rintro rfl
        exact hn.1 (List.mem_map.2 ⟨(k', v), h, rfl⟩)
      rw [if_neg this]
      exact ih hn.2 h

theorem objGet_some_mem (l : Obj) {k : Str} {v : V} (h : objGet l k = some v) : (k, v) ∈ l := by
  induction l with
  | nil => cases h
  | cons x r ih =>
    cases x with | mk k' w =>
    rw [objGet_cons] at h
    by_cases e : k' = k
    · subst e
      simp at h
      subst h
      exact .head _
    · rw [if_neg e] at h
      exact .tail _ (ih h)

theorem objGet_eq_some_iff {l : Obj} (hn : (keysOf l).Nodup) {k : Str} {v : V} :
    objGet l k = some v ↔ (k, v) ∈ l := ⟨objGet_some_mem l, objGet_of_mem l hn⟩

theorem objGet_perm {l l' : Obj} (hp : l.Perm l') (hn : (keysOf l).Nodup) (k : Str) : objGet l k = objGet l' k :=
  Option.ext fun v => by rw [objGet_eq_some_iff hn, objGet_eq_some_iff (nodup_keys_perm hp hn), hp.mem_iff]

theorem mem_keysOf {l : List (Str × α)} {k : Str} : k ∈ keysOf l ↔ ∃ v, (k, v) ∈ l := by
  simp [keysOf]

end Liquid.C11L
