/-
  Isolation of `render` partials: whatever runs inside a (fresh global frame over a) sandboxed
  frame can change nothing below the sandbox except the contents of counter (index) frames.
-/
import LiquidModel.Lemmas.Shape
namespace Liquid

/-- the frames below the first sandboxed frame (`none`: there is no sandbox) -/
def belowSandbox : Stack → Option Stack
  | [] => none
  | .sandbox _ _ :: r => some r
  | _ :: r => belowSandbox r

/-- scanning from the innermost frame, a global frame comes before any sandboxed frame — then
`set_global` cannot reach below the sandbox -/
def globalFirst : Stack → Bool
  | [] => false
  | .global _ :: _ => true
  | .sandbox _ _ :: _ => false
  | _ :: r => globalFirst r

/-- equal frames, except that two counter frames may hold different counters -/
def layerEqMod : Layer → Layer → Prop
  | .index _, .index _ => True
  | a, b => a = b

def eqModIndex : Stack → Stack → Prop
  | [], [] => True
  | x :: a, y :: b => layerEqMod x y ∧ eqModIndex a b
  | _, _ => False

theorem layerEqMod_refl (l : Layer) : layerEqMod l l := by cases l <;> simp [layerEqMod]

/-- a counter frame is related to counter frames only (and any other frame to itself only) -/
theorem layerEqMod_index {c : Obj} {y : Layer} (h : layerEqMod (.index c) y) : ∃ c', y = .index c' := by
  cases y <;> first | exact ⟨_, rfl⟩ | cases h

theorem layerEqMod_trans (a b c : Layer) (h1 : layerEqMod a b) (h2 : layerEqMod b c) : layerEqMod a c := by
  cases a with
  | index _ =>
    obtain ⟨_, rfl⟩ := layerEqMod_index h1
    obtain ⟨_, rfl⟩ := layerEqMod_index h2
    trivial
  | _ =>
    cases h1
    exact h2

theorem layerEqMod_kind (a b : Layer) (h : layerEqMod a b) : b.kind = a.kind := by
  cases a with
  | index _ =>
    obtain ⟨_, rfl⟩ := layerEqMod_index h
    rfl
  | _ =>
    cases h
    rfl

theorem eqModIndex_refl : ∀ st, eqModIndex st st
  | [] => trivial
  | l :: r => ⟨layerEqMod_refl l, eqModIndex_refl r⟩

theorem eqModIndex_trans : ∀ a b c, eqModIndex a b → eqModIndex b c → eqModIndex a c
  | [], [], [], _, _ => trivial
  | [], [], _ :: _, _, h => h.elim
  | [], _ :: _, _, h, _ => h.elim
  | _ :: _, [], _, h, _ => h.elim
  | _ :: _, _ :: _, [], _, h => h.elim
  | x :: a, y :: b, z :: c, h1, h2 =>
    ⟨layerEqMod_trans x y z h1.1 h2.1, eqModIndex_trans a b c h1.2 h2.2⟩

theorem eqModIndex_shape : ∀ a b, eqModIndex a b → b.shape = a.shape
  | [], [], _ => rfl
  | [], _ :: _, h => h.elim
  | _ :: _, [], h => h.elim
  | x :: a, y :: b, h => by
    have := eqModIndex_shape a b h.2
    simp only [Stack.shape, List.map_cons] at this ⊢
    rw [layerEqMod_kind x y h.1, this]

theorem globalFirst_of_shape : ∀ a b : Stack, b.shape = a.shape → globalFirst b = globalFirst a
  | [], [], _ => rfl
  | [], _ :: _, h => nomatch h
  | _ :: _, [], h => nomatch h
  | x :: a, y :: b, h => by
    simp only [Stack.shape, List.map_cons, List.cons.injEq] at h
    -- `y` has the kind of `x`: both decide the scan the same way, or both pass it on
    cases x with
    | global _ | sandbox _ _ => cases y <;> first | rfl | cases h.1
    | _ => cases y <;> first | exact globalFirst_of_shape a b h.2 | cases h.1

theorem belowSandbox_of_shape : ∀ a b : Stack, b.shape = a.shape →
    (belowSandbox a = none ∧ belowSandbox b = none) ∨
    ∃ ra rb, belowSandbox a = some ra ∧ belowSandbox b = some rb ∧ rb.shape = ra.shape
  | [], [], _ => Or.inl ⟨rfl, rfl⟩
  | [], _ :: _, h => nomatch h
  | _ :: _, [], h => nomatch h
  | x :: a, y :: b, h => by
    simp only [Stack.shape, List.map_cons, List.cons.injEq] at h
    -- `y` has the kind of `x`: two sandboxed frames, or both pass the question on
    cases x with
    | sandbox _ _ => cases y <;> first | exact .inr ⟨a, b, rfl, rfl, h.2⟩ | cases h.1
    | _ => cases y <;> first | exact belowSandbox_of_shape a b h.2 | cases h.1

theorem eqModIndex_belowSandbox : ∀ a b, eqModIndex a b → ∀ ra, belowSandbox a = some ra →
    ∃ rb, belowSandbox b = some rb ∧ eqModIndex ra rb
  | [], [], _, _, h => nomatch h
  | [], _ :: _, h, _, _ => h.elim
  | _ :: _, [], h, _, _ => h.elim
  | x :: a, y :: b, h, ra, hra => by
    obtain ⟨h1, h2⟩ := h
    -- `y` is `x`, or both are counter frames: a sandboxed pair ends the search on both sides with
    -- related rests, any other pair passes it on
    cases x with
    | index c =>
      obtain ⟨_, rfl⟩ := layerEqMod_index h1
      exact eqModIndex_belowSandbox a b h2 ra hra
    | sandbox d q =>
      cases h1
      cases hra
      exact ⟨b, rfl, h2⟩
    | _ =>
      cases h1
      exact eqModIndex_belowSandbox a b h2 ra hra

/-- what a step may do to the part of the runtime that lies below the first sandbox: nothing but
updating counters; and the core registers are untouched -/
def isoR (rt rt' : Rt) : Prop :=
  rt'.layers.shape = rt.layers.shape ∧
  (globalFirst rt.layers = true → ∀ b, belowSandbox rt.layers = some b →
    ∃ b', belowSandbox rt'.layers = some b' ∧ eqModIndex b b' ∧ rt'.core = rt.core)

theorem belowSandbox_append {a : Stack} (ha : a.all Layer.notSandbox = true) (b : Stack) :
    belowSandbox (a ++ b) = belowSandbox b := by
  induction a with
  | nil => rfl
  | cons l r ih =>
    rw [List.all_cons, Bool.and_eq_true] at ha
    cases l with
    | sandbox d q => cases ha.1
    | _ => exact ih ha.2

/-- a stack that begins with a global frame over a sandboxed frame: below the sandbox lies the rest -/
theorem belowSandbox_drop2 {st : Stack} {s : List Nat} (h : st.shape = 2 :: 1 :: s) :
    belowSandbox st = some (st.drop 2) := by
  rcases st with _ | ⟨l1, _ | ⟨l2, rest⟩⟩
  · cases h
  · cases l1 <;> cases h
  · cases l1 with
    | global _ =>
      cases l2 with
      | sandbox _ _ => rfl
      | _ => cases h
    | _ => cases h

theorem Stack.setRegs_below (st : Stack) (core g : Regs) (b : Stack) (h : belowSandbox st = some b) :
    belowSandbox (st.setRegs core g).1 = some b ∧ (st.setRegs core g).2 = core := by
  rcases Stack.setRegs_cases st core g with ⟨a, d, q, r, ha, rfl, hr⟩ | ⟨hs, _⟩
  · rw [hr, belowSandbox_append ha]
    rw [belowSandbox_append ha] at h
    exact ⟨h, rfl⟩
  · have := belowSandbox_append hs []
    rw [List.append_nil, h] at this
    cases this

theorem notSandbox_of_globalFirst : ∀ {a : Stack} {g : Obj} {b : Stack}, a.all C18.notGlobal = true →
    globalFirst (a ++ .global g :: b) = true → a.all Layer.notSandbox = true
  | [], _, _, _, _ => rfl
  | l :: r, g, b, ha, hg => by
    rw [List.all_cons, Bool.and_eq_true] at ha ⊢
    cases l with
    | sandbox d q => cases hg
    | global d => cases ha.1
    | _ => exact ⟨rfl, notSandbox_of_globalFirst ha.2 hg⟩

theorem setGlobal_below (st st' : Stack) (k : Str) (v : V) (hs : st.setGlobal k v = .ok st')
    (hg : globalFirst st = true) (b : Stack) (h : belowSandbox st = some b) :
    belowSandbox st' = some b := by
  obtain ⟨a, g, r, ha, rfl, rfl⟩ := Stack.setGlobal_ok hs
  have := notSandbox_of_globalFirst ha hg
  rw [belowSandbox_append this] at h ⊢
  exact h

theorem eqModIndex_append_cons (a b : Stack) (c c' : Obj) :
    eqModIndex (a ++ .index c :: b) (a ++ .index c' :: b) := by
  induction a with
  | nil => exact ⟨trivial, eqModIndex_refl b⟩
  | cons l r ih => exact ⟨layerEqMod_refl l, ih⟩

theorem setIndex_eqModIndex (st st' : Stack) (k : Str) (v : V) (hs : st.setIndex k v = .ok st') :
    eqModIndex st st' := by
  obtain ⟨a, c, b, _, rfl, rfl⟩ := Stack.setIndex_ok hs
  exact eqModIndex_append_cons a b _ _

/-- `render` pushes a fresh global frame over a sandboxed one.  Seen from inside that pair, "below
the first sandbox" is the caller's whole stack, and a global frame does come first: so `isoR` from
the pushed runtime to `rt'` says that under its two top frames `rt'` holds the caller's frames up
to counters, and the caller's core registers. -/
theorem isoR_sandbox {root : Obj} {rt rt' : Rt}
    (h : isoR { rt with layers := .global [] :: .sandbox root {} :: rt.layers } rt') :
    eqModIndex rt.layers (rt'.layers.drop 2) ∧ rt'.core = rt.core := by
  obtain ⟨hs, hp⟩ := h
  obtain ⟨b', hb', he, hc⟩ := hp rfl rt.layers rfl
  rw [belowSandbox_drop2 hs] at hb'
  cases hb'
  exact ⟨he, hc⟩

def isoRel : StepRel where
  R := isoR
  refl := fun rt => ⟨rfl, fun _ b hb => ⟨b, hb, eqModIndex_refl b, rfl⟩⟩
  trans := by
    intro a b c ⟨s1, h1⟩ ⟨s2, h2⟩
    refine ⟨s2.trans s1, ?_⟩
    intro hg ba hba
    obtain ⟨bb, hbb, e1, c1⟩ := h1 hg ba hba
    have hgb : globalFirst b.layers = true := by rw [globalFirst_of_shape _ _ s1]; exact hg
    obtain ⟨bc, hbc, e2, c2⟩ := h2 hgb bb hbb
    exact ⟨bc, hbc, eqModIndex_trans _ _ _ e1 e2, c2.trans c1⟩
  setRegs := by
    intro rt g
    refine ⟨Rt.setRegs_shape rt g, ?_⟩
    intro _ b hb
    have := Stack.setRegs_below rt.layers rt.core g b hb
    exact ⟨b, this.1, eqModIndex_refl b, this.2⟩
  setGlobal := by
    intro rt k v ls h
    refine ⟨setGlobal_shape h, ?_⟩
    intro hg b hb
    exact ⟨b, setGlobal_below _ _ k v h hg b hb, eqModIndex_refl b, rfl⟩
  setIndex := by
    intro rt k v ls h
    refine ⟨setIndex_shape h, ?_⟩
    intro _ b hb
    obtain ⟨b', hb', he⟩ := eqModIndex_belowSandbox _ _ (setIndex_eqModIndex _ _ k v h) b hb
    exact ⟨b', hb', he, rfl⟩
  framePlain := by
    intro d rt rt' ⟨hs, hp⟩
    refine ⟨shapeRel.framePlain d rt rt' hs, ?_⟩
    intro hg b hb
    obtain ⟨b', hb', he, hc⟩ := hp hg b hb
    refine ⟨b', ?_, he, hc⟩
    -- rt'.layers = l :: L' with l plain
    rcases hl : rt'.layers with _ | ⟨l, rest⟩ <;> rw [hl] at hs hb'
    · cases hs
    · cases l <;> first | exact hb' | cases hs
  frameSandbox := by
    -- the caller's own sandbox, if it has one, lies within what `isoR_sandbox` speaks of
    intro root rt rt' h
    refine ⟨shapeRel.frameSandbox root rt rt' h.1, fun _ b hb => ?_⟩
    obtain ⟨he, hc⟩ := isoR_sandbox h
    obtain ⟨b2, hb2, he2⟩ := eqModIndex_belowSandbox _ _ he b hb
    exact ⟨b2, hb2, he2, hc⟩

/-- **Inside a sandbox nothing below it changes but counters** — for every template. -/
theorem renderT_isolated (env : Env) (fuel : Nat) (t : Tmpl) (rt : Rt) (w : W) :
    isoR rt (renderT fuel env t rt w).2.1 :=
  Pres.renderT isoRel env fuel t rt w

end Liquid
