/-
  Non-interference for sandboxed rendering (two-run simulation).

  Two runtimes are related (`RelN n`) when they agree on all frames above their bottom `n` frames,
  that common top part contains a sandboxed frame and a global frame, and the bottom `n` frames
  have the same kinds and equal counter frames (everything else down there may differ).
  `NI2 n m1 m2`: started in related runtimes with the same sink, `m1` and `m2` return the same
  result, write the same output and end in related runtimes.  `renderN_ni`: every template is
  related to itself — what runs inside a sandbox is a function of the frames above the sandbox and
  of the counters alone; nothing else of the caller can influence it.
-/
import LiquidModel.Lemmas.Shape
namespace Liquid.NI

def isSb : Layer → Bool | .sandbox _ _ => true | _ => false
def isGl : Layer → Bool | .global _ => true | _ => false

def relLayer (a b : Layer) : Prop :=
  a.kind = b.kind ∧ ∀ c1 c2, a = .index c1 → b = .index c2 → c1 = c2

def relBelow : Stack → Stack → Prop
  | [], [] => True
  | x :: a, y :: b => relLayer x y ∧ relBelow a b
  | _, _ => False

theorem relLayer_refl (l : Layer) : relLayer l l :=
  ⟨rfl, fun c1 c2 h1 h2 => by rw [h1] at h2; cases h2; rfl⟩

theorem relBelow_refl : ∀ s, relBelow s s
  | [] => trivial
  | l :: r => ⟨relLayer_refl l, relBelow_refl r⟩

theorem relBelow_shape : ∀ a b, relBelow a b → a.shape = b.shape
  | [], [], _ => rfl
  | [], _ :: _, h => h.elim
  | _ :: _, [], h => h.elim
  | x :: a, y :: b, h => by
    have := relBelow_shape a b h.2
    simp only [Stack.shape, List.map_cons] at this ⊢
    rw [this, h.1.1]

/-- the common top part must contain a sandboxed frame (lookups and registers stop there) and a
global frame (assignments stop there) -/
def good (pre : Stack) : Prop := pre.any isSb = true ∧ pre.any isGl = true

theorem isSb_kind (l : Layer) : isSb l = (l.kind == 1) := by cases l <;> rfl
theorem isGl_kind (l : Layer) : isGl l = (l.kind == 2) := by cases l <;> rfl
theorem notIndex_kind (l : Layer) : C18.notIndex l = (l.kind != 3) := by cases l <;> rfl

theorem good_of_shape {a b : Stack} (h : b.shape = a.shape) (hg : good a) : good b := by
  unfold good at *
  rw [Stack.any_kind (g := (· == 1)) isSb_kind, Stack.any_kind (g := (· == 2)) isGl_kind] at *
  rw [h]; exact hg

theorem good_append (ls pre : Stack) (h : good pre) : good (ls ++ pre) :=
  ⟨by simp [List.any_append, h.1], by simp [List.any_append, h.2]⟩

theorem shape_prefix {pre pre' b b' : Stack} (hl : b'.length = b.length)
    (hs : Stack.shape (pre' ++ b') = Stack.shape (pre ++ b)) : pre'.shape = pre.shape := by
  rw [Stack.shape_append, Stack.shape_append] at hs
  exact List.append_inj_left' hs (by simp [Stack.shape, hl])

/-- related up to the bottom `n` frames: a common top part that is `good`, over `n` frames that are `relBelow` -/
def RelN (n : Nat) (s1 s2 : Stack) : Prop :=
  ∃ pre b1 b2, s1 = pre ++ b1 ∧ s2 = pre ++ b2 ∧ b1.length = n ∧ good pre ∧ relBelow b1 b2

/-! ### what the evaluators can see is the same in related stacks

Here `_low` marks what an operation does on `pre ++ b1` against `pre ++ b2`: a read stops at the
sandboxed frame of `pre` and gives the same answer, a write lands in `pre` and leaves `b1`, `b2`
alone (`set_index` apart, which may go through to counter frames that agree).  Together the reads
make the two stacks look alike (`RelN.view`), which is the hypothesis of the `_low` lemmas of
`Lemmas/Eval.lean`. -/

theorem tryGet_low (pre : Stack) (h : pre.any isSb = true) (b1 b2 : Stack) (p : List Sc) :
    (pre ++ b1).tryGet p = (pre ++ b2).tryGet p := by
  induction pre with
  | nil => cases h
  | cons l r ih =>
    cases p with
    | nil => rfl
    | cons k p =>
      rw [List.cons_append, List.cons_append, Stack.tryGet_cons, Stack.tryGet_cons]
      cases l with
      | sandbox d q => rfl
      | _ => rw [ih h]

theorem get_low (pre : Stack) (h : pre.any isSb = true) (b1 b2 : Stack) (p : List Sc) :
    (pre ++ b1).get p = (pre ++ b2).get p := by
  rw [Stack.get_tryGet, Stack.get_tryGet, tryGet_low pre h]

theorem getIndex_below : ∀ (b1 b2 : Stack), relBelow b1 b2 → ∀ k, b1.getIndex k = b2.getIndex k
  | [], [], _, _ => rfl
  | [], _ :: _, h, _ => h.elim
  | _ :: _, [], h, _ => h.elim
  | x :: a, y :: b, h, k => by
    have ih := getIndex_below a b h.2 k
    obtain ⟨hk, hc⟩ := h.1
    cases x with
    | index c1 =>
      obtain ⟨c2, rfl⟩ : ∃ c2, y = .index c2 := by cases y <;> first | exact ⟨_, rfl⟩ | cases hk
      rw [hc c1 c2 rfl rfl]
      rfl
    | _ => cases y <;> first | exact ih | cases hk

theorem getIndex_low (pre b1 b2 : Stack) (h : relBelow b1 b2) (k : Str) :
    (pre ++ b1).getIndex k = (pre ++ b2).getIndex k := by
  induction pre with
  | nil => exact getIndex_below b1 b2 h k
  | cons l r ih =>
    cases l with
    | index c => rfl
    | _ => exact ih

theorem regs_low (pre : Stack) (h : pre.any isSb = true) (b1 b2 : Stack) (c1 c2 : Regs) :
    (pre ++ b1).regs c1 = (pre ++ b2).regs c2 := by
  induction pre with
  | nil => cases h
  | cons l r ih =>
    cases l with
    | sandbox d q => rfl
    | _ => exact ih h

theorem setRegs_low (pre : Stack) (h : pre.any isSb = true) (g : Regs) :
    ∃ pre', pre'.shape = pre.shape ∧ ∀ (b : Stack) (c : Regs), (pre ++ b).setRegs c g = (pre' ++ b, c) := by
  rcases Stack.setRegs_cases pre {} g with ⟨a, d, q, r, ha, rfl, _⟩ | ⟨hn, _⟩
  · refine ⟨a ++ .sandbox d g :: r, Stack.shape_append_cons a r rfl, fun b c => ?_⟩
    rw [List.append_assoc, Stack.setRegs_append ha, List.append_assoc]; rfl
  · obtain ⟨l, h1, h2⟩ := exists_of_any_all h hn
    cases l <;> first | exact Bool.noConfusion h1 | exact Bool.noConfusion h2

theorem setGlobal_low (pre : Stack) (h : pre.any isGl = true) (k : Str) (v : V) :
    ∃ pre', pre'.shape = pre.shape ∧ ∀ b : Stack, (pre ++ b).setGlobal k v = .ok (pre' ++ b) := by
  rcases Stack.setGlobal_cases pre k v with ⟨a, g, r, ha, rfl, _⟩ | ⟨hn, _⟩
  · refine ⟨a ++ .global (objInsert g k v) :: r, Stack.shape_append_cons a r rfl, fun b => ?_⟩
    rw [List.append_assoc, List.append_assoc]; exact Stack.setGlobal_append ha g (r ++ b) k v
  · obtain ⟨l, h1, h2⟩ := exists_of_any_all h hn
    cases l <;> first | exact Bool.noConfusion h1 | exact Bool.noConfusion h2

theorem setIndex_below : ∀ (b1 b2 : Stack), relBelow b1 b2 → ∀ (k : Str) (v : V),
    (∃ b1' b2', b1.setIndex k v = .ok b1' ∧ b2.setIndex k v = .ok b2' ∧ b1'.length = b1.length ∧ relBelow b1' b2')
    ∨ (∃ s, b1.setIndex k v = .panic s ∧ b2.setIndex k v = .panic s)
  | [], [], _, _, _ => .inr ⟨_, rfl, rfl⟩
  | [], _ :: _, h, _, _ => h.elim
  | _ :: _, [], h, _, _ => h.elim
  | x :: a, y :: b, h, k, v => by
    obtain ⟨hk, hc⟩ := h.1
    cases hx : C18.notIndex x with
    | false =>
      -- two counter frames, holding the same counters
      obtain ⟨c, rfl⟩ : ∃ c, x = .index c := by cases x <;> first | exact ⟨_, rfl⟩ | cases hx
      obtain ⟨c2, rfl⟩ : ∃ c2, y = .index c2 := by cases y <;> first | exact ⟨_, rfl⟩ | cases hk
      cases hc c c2 rfl rfl
      exact .inl ⟨.index (objInsert c k v) :: a, .index (objInsert c k v) :: b, rfl, rfl, rfl, relLayer_refl _, h.2⟩
    | true =>
      have hy : C18.notIndex y = true := by rw [notIndex_kind, ← hk, ← notIndex_kind, hx]
      rw [Stack.setIndex_cons hx, Stack.setIndex_cons hy]
      rcases setIndex_below a b h.2 k v with ⟨a', b', ha, hb, hl, hr⟩ | ⟨s, ha, hb⟩
      · exact .inl ⟨x :: a', y :: b', by rw [ha]; rfl, by rw [hb]; rfl, congrArg (· + 1) hl, h.1, hr⟩
      · exact .inr ⟨s, by rw [ha]; rfl, by rw [hb]; rfl⟩

theorem setIndex_low (pre b1 b2 : Stack) (h : relBelow b1 b2) (k : Str) (v : V) :
    (∃ pre' b1' b2', (pre ++ b1).setIndex k v = .ok (pre' ++ b1') ∧ (pre ++ b2).setIndex k v = .ok (pre' ++ b2') ∧
        pre'.shape = pre.shape ∧ b1'.length = b1.length ∧ relBelow b1' b2')
    ∨ (∃ s, (pre ++ b1).setIndex k v = .panic s ∧ (pre ++ b2).setIndex k v = .panic s) := by
  rcases Stack.setIndex_cases pre k v with ⟨a, c, r, ha, rfl, _⟩ | ⟨hn, _⟩
  · refine .inl ⟨a ++ .index (objInsert c k v) :: r, b1, b2, ?_, ?_, Stack.shape_append_cons a r rfl, rfl, h⟩ <;>
      rw [List.append_assoc, List.append_assoc] <;> exact Stack.setIndex_append ha c _ k v
  · rw [Stack.setIndex_through hn, Stack.setIndex_through hn]
    rcases setIndex_below b1 b2 h k v with ⟨b1', b2', h1, h2, hl, hr⟩ | ⟨s, h1, h2⟩
    · exact .inl ⟨pre, b1', b2', by rw [h1]; rfl, by rw [h2]; rfl, rfl, hl, hr⟩
    · exact .inr ⟨s, by rw [h1]; rfl, by rw [h2]; rfl⟩

theorem RelN.view {n : Nat} {s1 s2 : Stack} (h : RelN n s1 s2) : SameView s1 s2 := by
  obtain ⟨pre, b1, b2, rfl, rfl, _, hg, hb⟩ := h
  exact ⟨get_low pre hg.1 b1 b2, tryGet_low pre hg.1 b1 b2, getIndex_low pre b1 b2 hb⟩

/-! ### the two-run logic -/

/-- Outcomes of two related runs.  `sh1`, `sh2` (each run keeps its frames balanced) ride along for
`NI2.inFrames` alone: after the pop it finds the common top part again by its shape (`shape_prefix`). -/
structure Out (n : Nat) {α : Type} (rt1 rt2 : Rt) (o1 o2 : Res α × Rt × W) : Prop where
  res : o1.1 = o2.1
  out : o1.2.2 = o2.2.2
  rel : RelN n o1.2.1.layers o2.2.1.layers
  sh1 : o1.2.1.layers.shape = rt1.layers.shape
  sh2 : o2.2.1.layers.shape = rt2.layers.shape

def NI2 (n : Nat) {α : Type} (m1 m2 : M α) : Prop :=
  ∀ rt1 rt2 w, RelN n rt1.layers rt2.layers → Out n rt1 rt2 (m1 rt1 w) (m2 rt2 w)

namespace NI2
variable {n : Nat}

theorem pure {α} (a : α) : NI2 n (Pure.pure a : M α) (Pure.pure a) :=
  fun _ _ _ h => ⟨rfl, rfl, h, rfl, rfl⟩

theorem lift {α} (r : Res α) : NI2 n (M.lift r) (M.lift r) :=
  fun _ _ _ h => ⟨rfl, rfl, h, rfl, rfl⟩

theorem emit (s : Str) : NI2 n (M.emit s) (M.emit s) := by
  intro rt1 rt2 w h
  unfold M.emit
  cases w.write s <;> exact ⟨rfl, rfl, h, rfl, rfl⟩

theorem regs_eq {rt1 rt2 : Rt} (h : RelN n rt1.layers rt2.layers) : rt1.regs = rt2.regs := by
  obtain ⟨pre, b1, b2, e1, e2, _, hg, _⟩ := h
  simp only [Rt.regs, e1, e2]
  exact regs_low pre hg.1 b1 b2 _ _

theorem getRegs : NI2 n M.getRegs M.getRegs :=
  fun _ _ _ h => ⟨by simp [M.getRegs, regs_eq h], rfl, h, rfl, rfl⟩

theorem setRegs (g : Regs) : NI2 n (M.setRegs g) (M.setRegs g) := by
  intro rt1 rt2 w h
  obtain ⟨pre, b1, b2, e1, e2, hl, hg, hb⟩ := h
  obtain ⟨pre', hs, hp⟩ := setRegs_low pre hg.1 g
  have r1 : (rt1.setRegs g).layers = pre' ++ b1 := by simp [Rt.setRegs, e1, hp]
  have r2 : (rt2.setRegs g).layers = pre' ++ b2 := by simp [Rt.setRegs, e2, hp]
  exact ⟨rfl, rfl, ⟨pre', b1, b2, r1, r2, hl, good_of_shape hs hg, hb⟩,
    Rt.setRegs_shape rt1 g, Rt.setRegs_shape rt2 g⟩

theorem bind {α β} {m1 m2 : M α} {f1 f2 : α → M β} (hm : NI2 n m1 m2) (hf : ∀ a, NI2 n (f1 a) (f2 a)) :
    NI2 n (m1 >>= f1) (m2 >>= f2) := by
  intro rt1 rt2 w h
  have o := hm rt1 rt2 w h
  rw [M.run_bind, M.run_bind]
  rcases h1 : m1 rt1 w with ⟨r1, rt1', w1⟩
  rcases h2 : m2 rt2 w with ⟨r2, rt2', w2⟩
  rw [h1, h2] at o
  obtain ⟨hr, hw, hrel, hs1, hs2⟩ := o
  subst hr; subst hw
  cases r1 with
  | ok a =>
    have o' := hf a rt1' rt2' w1 hrel
    exact ⟨o'.res, o'.out, o'.rel, o'.sh1.trans hs1, o'.sh2.trans hs2⟩
  | _ => exact ⟨rfl, rfl, hrel, hs1, hs2⟩

theorem getSt_bind {β} {k1 k2 : Stack → M β}
    (hk : ∀ s1 s2, SameView s1 s2 → NI2 n (k1 s1) (k2 s2)) : NI2 n (M.getSt >>= k1) (M.getSt >>= k2) := by
  intro rt1 rt2 w h
  exact hk rt1.layers rt2.layers h.view rt1 rt2 w h

theorem setGlobalM (x : Str) (v : V) : NI2 n (setGlobalM x v) (setGlobalM x v) := by
  intro rt1 rt2 w h
  obtain ⟨pre, b1, b2, e1, e2, hl, hg, hb⟩ := h
  obtain ⟨pre', hs, hp⟩ := setGlobal_low pre hg.2 x v
  refine ⟨?_, ?_, ?_, shapeRel.toMProp.setGlobalM x v rt1 w, shapeRel.toMProp.setGlobalM x v rt2 w⟩ <;>
    simp only [Liquid.setGlobalM, M.run_bind, M.run_getSt, M.run_lift, e1, e2, hp, M.run_setLayers]
  exact ⟨pre', b1, b2, rfl, rfl, hl, good_of_shape hs hg, hb⟩

theorem setIndexM (x : Str) (v : V) : NI2 n (setIndexM x v) (setIndexM x v) := by
  intro rt1 rt2 w h
  obtain ⟨pre, b1, b2, e1, e2, hl, hg, hb⟩ := h
  have s1 := shapeRel.toMProp.setIndexM x v rt1 w
  have s2 := shapeRel.toMProp.setIndexM x v rt2 w
  rcases setIndex_low pre b1 b2 hb x v with ⟨pre', b1', b2', h1, h2, hs, hl', hr⟩ | ⟨s, h1, h2⟩ <;>
    refine ⟨?_, ?_, ?_, s1, s2⟩ <;>
    simp only [Liquid.setIndexM, M.run_bind, M.run_getSt, M.run_lift, e1, e2, h1, h2, M.run_setLayers]
  · exact ⟨pre', b1', b2', rfl, rfl, hl'.trans hl, good_of_shape hs hg, hr⟩
  · exact ⟨pre, b1, b2, rfl, rfl, hl, hg, hb⟩

theorem capture {m1 m2 : M Unit} (hm : NI2 n m1 m2) : NI2 n (M.capture m1) (M.capture m2) := by
  intro rt1 rt2 w h
  have o := hm rt1 rt2 {} h
  unfold M.capture
  rcases h1 : m1 rt1 {} with ⟨r1, rt1', w1⟩
  rcases h2 : m2 rt2 {} with ⟨r2, rt2', w2⟩
  rw [h1, h2] at o
  obtain ⟨hr, hw, hrel, hs1, hs2⟩ := o
  subst hr; subst hw
  cases r1 <;> exact ⟨rfl, rfl, hrel, hs1, hs2⟩

theorem inFrames {α} (ls : List Layer) {m1 m2 : M α} (hm : NI2 n m1 m2) :
    NI2 n (M.inFrames ls m1) (M.inFrames ls m2) := by
  intro rt1 rt2 w h
  obtain ⟨pre, b1, b2, e1, e2, hl, hg, hb⟩ := h
  obtain ⟨hr, hw, ⟨pre', b1', b2', e1', e2', hl', hg', hb'⟩, hs1, hs2⟩ :=
    hm { rt1 with layers := ls ++ rt1.layers } { rt2 with layers := ls ++ rt2.layers } w
      ⟨ls ++ pre, b1, b2, by simp [e1], by simp [e2], hl, good_append ls pre hg, hb⟩
  -- the common top part of the result has the shape of the one before under the pushed frames
  have hpre : pre'.shape = Stack.shape (ls ++ pre) :=
    shape_prefix (hl'.trans hl.symm) (by rw [← e1', hs1, e1, List.append_assoc])
  have hle : ls.length ≤ pre'.length := by
    have := congrArg List.length hpre
    simp only [Stack.shape, List.length_map, List.length_append] at this
    omega
  rw [M.run_inFrames, M.run_inFrames]
  refine ⟨hr, hw, ⟨pre'.drop ls.length, b1', b2', ?_, ?_, hl', good_of_shape (Stack.shape_drop hpre) hg, hb'⟩,
    Stack.shape_drop hs1, Stack.shape_drop hs2⟩
  · exact (congrArg (List.drop ls.length) e1').trans (List.drop_append_of_le_length hle)
  · exact (congrArg (List.drop ls.length) e2').trans (List.drop_append_of_le_length hle)

end NI2

def niRel (n : Nat) : MRel where
  R := NI2 n
  S := SameView
  G := fun _ => True
  view := id
  plain := fun _ => trivial
  cast := fun _ => trivial
  pure := NI2.pure
  bind := NI2.bind
  getSt := NI2.getSt_bind
  lift := fun _ => NI2.lift _
  emit := NI2.emit
  getRegs := NI2.getRegs
  setRegs := NI2.setRegs
  setGlobalM := NI2.setGlobalM
  setIndexM := NI2.setIndexM
  capture := NI2.capture
  inPlain := fun _ _ _ h => NI2.inFrames _ h
  inSandbox := fun _ _ _ h => NI2.inFrames _ h

/-- **Every template is related to itself**: run in two related runtimes, it returns the same
result, writes the same output and leaves related runtimes. -/
theorem renderN_ni (env : Env) (n : Nat) : ∀ fuel nd, NI2 n (renderN fuel env nd) (renderN fuel env nd)
  | 0, nd => by rw [renderN_zero]; exact NI2.lift _
  | fuel + 1, nd =>
    have body : ∀ t, NI2 n (renderT fuel env t) (renderT fuel env t) := fun t =>
      (niRel n).renderList t fun m _ => renderN_ni env n fuel m
    (niRel n).renderN_succ env fuel fuel (fun _ _ _ => trivial) (fun _ _ => trivial) nd
      (fun t _ => body t) (fun _ _ => trivial) (fun _ _ => ⟨trivial, fun t _ => body t⟩)

theorem renderT_ni (env : Env) (n fuel : Nat) (t : Tmpl) : NI2 n (renderT fuel env t) (renderT fuel env t) :=
  (niRel n).renderList t fun m _ => renderN_ni env n fuel m

/-! ### the caller's side: two arbitrary callers whose counters agree -/

def OutC {α : Type} (o1 o2 : Res α × Rt × W) : Prop :=
  o1.1 = o2.1 ∧ o1.2.2 = o2.2.2 ∧ relBelow o1.2.1.layers o2.2.1.layers

/-- non-interference seen from the callers: nothing is asked of the two runtimes but `relBelow`, there
is no common top part -/
def NIc {α : Type} (m1 m2 : M α) : Prop :=
  ∀ rt1 rt2 w, relBelow rt1.layers rt2.layers → OutC (m1 rt1 w) (m2 rt2 w)

namespace NIc

theorem pure {α} (a : α) : NIc (Pure.pure a : M α) (Pure.pure a) := fun _ _ _ h => ⟨rfl, rfl, h⟩

theorem lift_eq {α} {r1 r2 : Res α} (e : r1 = r2) : NIc (M.lift r1) (M.lift r2) := fun _ _ _ h => ⟨e, rfl, h⟩

theorem bind {α β} {m1 m2 : M α} {f1 f2 : α → M β} (hm : NIc m1 m2) (hf : ∀ a, NIc (f1 a) (f2 a)) :
    NIc (m1 >>= f1) (m2 >>= f2) := by
  intro rt1 rt2 w h
  have o := hm rt1 rt2 w h
  rw [M.run_bind, M.run_bind]
  rcases h1 : m1 rt1 w with ⟨r1, rt1', w1⟩
  rcases h2 : m2 rt2 w with ⟨r2, rt2', w2⟩
  rw [h1, h2] at o
  obtain ⟨hr, hw, hrel⟩ := o
  subst hr; subst hw
  cases r1 with
  | ok a => exact hf a rt1' rt2' w1 hrel
  | _ => exact ⟨rfl, rfl, hrel⟩

theorem loopItems {s1 s2 : V → Nat → M (Option Intr)} (hs : ∀ v i, NIc (s1 v i) (s2 v i)) (items : List V) (i : Nat) :
    NIc (Liquid.loopItems s1 items i) (Liquid.loopItems s2 items i) :=
  loopItems_rel pure bind hs items i

/-- the two pushed frames are the common top part and the callers' whole stacks the bottom parts,
whatever their length: hence `NI2 n` for every `n` -/
theorem sandbox {α} (root : Obj) {m1 m2 : M α} (hm : ∀ n, NI2 n m1 m2) :
    NIc (M.inFrames [.global [], .sandbox root {}] m1) (M.inFrames [.global [], .sandbox root {}] m2) := by
  intro rt1 rt2 w hb
  obtain ⟨hr, hw, ⟨pre', b1', b2', e1', e2', hl', hg', hb'⟩, hs1, hs2⟩ :=
    hm rt1.layers.length { rt1 with layers := [.global [], .sandbox root {}] ++ rt1.layers }
      { rt2 with layers := [.global [], .sandbox root {}] ++ rt2.layers } w
      ⟨[.global [], .sandbox root {}], rt1.layers, rt2.layers, rfl, rfl, rfl, ⟨rfl, rfl⟩, hb⟩
  -- the common top part of the result is as long as the two pushed frames
  have hlen : pre'.length = 2 := by
    have := congrArg List.length hs1
    simp only [Stack.shape, List.length_map, e1', List.length_append, List.length_cons, List.length_nil] at this
    omega
  rw [M.run_inFrames, M.run_inFrames]
  refine ⟨hr, hw, ?_⟩
  show relBelow (List.drop 2 _) (List.drop 2 _)
  rw [e1', e2', List.drop_left' hlen, List.drop_left' hlen]
  exact hb'

end NIc

/-- **`render` from two arbitrary callers.** If the partial's name, its arguments (and, for the
`for` form, the collection) evaluate to the same values in two callers whose counter frames agree,
the tag returns the same result and writes the same output in both — whatever else the callers'
scopes contain — and their counters agree afterwards. -/
theorem render_ni (env : Env) (fuel : Nat) (name : Expr) (form : RForm) (args : List (Str × Expr))
    (rt1 rt2 : Rt) (w : W) (hb : relBelow rt1.layers rt2.layers)
    (hn : name.eval rt1.layers = name.eval rt2.layers)
    (ha : evalVars rt1.layers (form.vars args) [] = evalVars rt2.layers (form.vars args) [])
    (hr : ∀ rng as_, form = .for_ rng as_ → rng.eval rt1.layers = rng.eval rt2.layers) :
    OutC (renderN (fuel + 1) env (.render_ name form args) rt1 w)
         (renderN (fuel + 1) env (.render_ name form args) rt2 w) := by
  rw [Liquid.renderN]
  simp only [M.run_bind, M.run_getSt]
  rw [hn]
  cases name.eval rt2.layers with
  | ok v =>
    simp only [M.run_lift]
    cases v with
    | sc s =>
      cases form with
      | for_ rng as_ =>
        have := hr rng as_ rfl
        refine NIc.bind (NIc.lift_eq this) (fun items => ?_) rt1 rt2 w hb
        refine NIc.loopItems (fun v i => ?_) _ _
        unfold Liquid.renderForStep
        -- the `for` form passes `args` as they are: `(RForm.for_ rng as_).vars args` is `args`
        refine NIc.bind (NIc.lift_eq ha) (fun root0 => NIc.sandbox _ (fun n => ?_))
        exact NI2.bind (NI2.bind (NI2.lift _) (fun t => renderT_ni env n fuel t)) (fun _ => (niRel n).takeInterruptM)
      | _ =>
        exact NIc.bind (NIc.lift_eq ha) (fun root => NIc.bind (NIc.lift_eq rfl)
          (fun t => NIc.sandbox _ (fun n => renderT_ni env n fuel t))) rt1 rt2 w hb
    | _ => exact ⟨rfl, rfl, hb⟩
  | _ => exact ⟨rfl, rfl, hb⟩

end Liquid.NI
