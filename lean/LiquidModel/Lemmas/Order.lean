/-
  Order facts shared by the lemmas for C11 (ordering of values) and C14 (sort): `strCmp` and
  `boolCmp` are core's `compare`, so their laws are core's `OrientedCmp` / `TransCmp` /
  `LawfulEqCmp` instances; `i64 as f64` is exact up to 2^53.
-/
import LiquidModel.Model.Value
namespace Liquid
open Std

theorem compare_char_eq (x y : Char) : compare x y = compare x.toNat y.toNat := by
  simp only [compare, compareOfLessAndEq, Char.lt_def, UInt32.lt_iff_toNat_lt, Char.toNat, ← Char.toNat_inj]

theorem strCmp_eq_compare (a b : Str) : strCmp a b = compare a b := by
  induction a generalizing b with
  | nil => cases b <;> rfl
  | cons x xs ih =>
    cases b with
    | nil => rfl
    | cons y ys =>
      rw [strCmp, List.compare_cons_cons, ← ih, compare_char_eq, Nat.compare_eq_ite_lt]
      split
      · rfl
      · split <;> rfl

theorem boolCmp_eq_compare (a b : Bool) : boolCmp a b = compare a b := by
  cases a <;> cases b <;> rfl

theorem boolCmp_transCmp : TransCmp boolCmp := by
  rw [show boolCmp = compare from funext fun a => funext (boolCmp_eq_compare a)]; infer_instance

theorem strCmp_transCmp : TransCmp strCmp := by
  rw [show strCmp = compare from funext fun a => funext (strCmp_eq_compare a)]; infer_instance

theorem strCmp_eq_iff (a b : Str) : strCmp a b = .eq ↔ a = b := by
  rw [strCmp_eq_compare]; exact compare_eq_iff_eq

theorem strCmp_refl (a : Str) : strCmp a a = .eq := (strCmp_eq_iff a a).2 rfl

theorem strCmp_swap (a b : Str) : strCmp b a = (strCmp a b).swap := by
  rw [strCmp_eq_compare, strCmp_eq_compare]; exact OrientedCmp.eq_swap

theorem strCmp_gt_iff (a b : Str) : strCmp a b = .gt ↔ strCmp b a = .lt := by
  rw [strCmp_eq_compare, strCmp_eq_compare]; exact OrientedCmp.gt_iff_lt

theorem strCmp_lt_asymm {a b : Str} (h : strCmp a b = .lt) : strCmp b a ≠ .lt := by
  rw [strCmp_eq_compare] at *; exact OrientedCmp.not_lt_of_lt h

theorem strCmp_le_trans {a b c : Str} (h1 : strCmp a b ≠ .gt) (h2 : strCmp b c ≠ .gt) : strCmp a c ≠ .gt := by
  rw [strCmp_eq_compare] at *
  exact Ordering.isLE_iff_ne_gt.1 (TransCmp.isLE_trans (Ordering.isLE_iff_ne_gt.2 h1) (Ordering.isLE_iff_ne_gt.2 h2))

theorem ne_gt_eq_isLE (o : Ordering) : (o != .gt) = o.isLE := by cases o <;> rfl

/-! ### `i64 as f64` is exact up to 2^53 -/

theorem bitLen_le_of_lt (n k : Nat) (h : n < 2 ^ k) : bitLen n ≤ k := by
  unfold bitLen
  split
  · omega
  · rename_i hn
    have := (Nat.log2_lt hn).2 h
    omega

theorem roundI64ToF64_exact (x : Int) (h : -(2 : Int) ^ 53 ≤ x ∧ x ≤ 2 ^ 53) : roundI64ToF64 x = x := by
  by_cases hlt : x.natAbs < 2 ^ 53
  · unfold roundI64ToF64
    have := bitLen_le_of_lt x.natAbs 53 hlt
    simp only [this, if_true, Int.ofNat_eq_natCast]
    split <;> omega
  · have e : x = 2 ^ 53 ∨ x = -(2 ^ 53) := by omega
    rcases e with e | e <;> subst e <;> decide

end Liquid
