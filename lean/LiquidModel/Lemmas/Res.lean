/-
  `Res` as a monad: it is lawful, a bind panics only if one of its two stages does, and the results
  the pure evaluators produce (`Res.plain`: a value or a Liquid error) are closed under bind.
-/
import LiquidModel.Model.Find
namespace Liquid

instance : LawfulMonad Res := LawfulMonad.mk' Res
  (id_map := fun x => by cases x <;> rfl)
  (pure_bind := fun _ _ => rfl)
  (bind_assoc := fun x _ _ => by cases x <;> rfl)

theorem Res.bind_not_panic {α β} {r : Res α} {f : α → Res β} (hr : r.isPanic = false)
    (hf : ∀ a, r = .ok a → (f a).isPanic = false) : (r.bind f).isPanic = false := by
  cases r with
  | ok a => exact hf a rfl
  | panic m => exact hr
  | _ => rfl

theorem Res.ok_or_notok {α} (r : Res α) : (∃ a, r = .ok a) ∨ r.isOk = false := by
  cases r <;> first | exact .inl ⟨_, rfl⟩ | exact .inr rfl

/-- a value or a Liquid error: no sink failure, no panic, no fuel exhaustion -/
def Res.plain {α} : Res α → Bool
  | .ok _ | .err => true
  | _ => false

theorem Res.plain_bind {α β} {r : Res α} {f : α → Res β} (h1 : r.plain = true)
    (h2 : ∀ a, (f a).plain = true) : (r >>= f).plain = true := by
  cases r <;> first | exact h2 _ | exact h1

theorem Res.not_panic_of_plain {α} {r : Res α} (h : r.plain = true) : r.isPanic = false := by
  cases r <;> first | rfl | cases h

end Liquid
