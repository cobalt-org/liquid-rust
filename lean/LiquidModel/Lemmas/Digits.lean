/-
  Decimal text of integers: `natDigits` / `intRepr` produce digit strings, `digitsVal?` / `parseI64`
  read them back (by way of core's `Nat.ofDigitChars`), and `inI64` is the two-sided bound it looks like.
-/
import LiquidModel.Model.Find
namespace Liquid

/-- one row of an `if … then … else if …` table -/
theorem ite_eq_cases {α : Sort _} {c : Prop} [Decidable c] {a b x : α}
    (h : (if c then a else b) = x) : c ∧ a = x ∨ ¬c ∧ b = x := by
  split at h
  · exact .inl ⟨‹c›, h⟩
  · exact .inr ⟨‹¬c›, h⟩

theorem inI64_iff (i : Int) : inI64 i = true ↔ i64Min ≤ i ∧ i ≤ i64Max := by
  simp [inI64]

theorem inI64_false_iff (i : Int) : inI64 i = false ↔ (i < i64Min ∨ i64Max < i) := by
  rw [← Bool.not_eq_true, inI64_iff]; omega

/-- every branch of `parseI64` that returns `some v` has just tested `inI64 v` -/
theorem parseI64_inI64 {s : Str} {v : Int} (h : parseI64 s = some v) : inI64 v = true := by
  unfold parseI64 at h
  simp only [] at h
  split at h <;> (repeat' (split at h)) <;> simp at h <;> (subst h; assumption)

theorem digitVal_of_isDigit (c : Char) (h : c.isDigit = true) : digitVal? c = some (c.toNat - '0'.toNat) := by
  unfold digitVal?
  have : '0' ≤ c ∧ c ≤ '9' := by
    simp [Char.isDigit] at h
    exact ⟨h.1, h.2⟩
  simp [this]

theorem digitsVal_eq (ds : Str) (h : ∀ c ∈ ds, c.isDigit = true) (acc : Nat) :
    digitsVal? ds acc = some (Nat.ofDigitChars 10 ds acc) := by
  induction ds generalizing acc with
  | nil => simp [digitsVal?]
  | cons c t ih =>
    have hc := digitVal_of_isDigit c (h c (by simp))
    simp only [digitsVal?, hc, Nat.ofDigitChars_cons]
    rw [ih (fun c hc => h c (by simp [hc]))]
    congr 2
    omega

theorem isDigit_ne_sign {c : Char} (h : c.isDigit = true) : c ≠ '-' ∧ c ≠ '+' := by
  constructor <;> (rintro rfl; simp [Char.isDigit] at h)

theorem natDigits_isDigit (n : Nat) : ∀ c ∈ natDigits n, c.isDigit = true :=
  fun _ hc => Nat.isDigit_of_mem_toDigits (by decide) (by decide) hc

theorem natDigits_ne_nil (n : Nat) : natDigits n ≠ [] := Nat.toDigits_ne_nil

theorem natDigits_length_le (n k : Nat) (hk : 0 < k) (h : n < 10 ^ k) : (natDigits n).length ≤ k :=
  (Nat.length_toDigits_le_iff (by omega) hk).mpr h

theorem ofDigitChars_natDigits (n : Nat) : Nat.ofDigitChars 10 (natDigits n) 0 = n :=
  Nat.ofDigitChars_ten_toDigits

theorem natDigits_injective (a b : Nat) (h : natDigits a = natDigits b) : a = b := by
  rw [← ofDigitChars_natDigits a, h, ofDigitChars_natDigits]

/-- the head of a non-empty digit string is a digit, hence no sign -/
theorem digits_head {ds : Str} (hne : ds ≠ []) (hd : ∀ c ∈ ds, c.isDigit = true) :
    ∃ c r, ds = c :: r ∧ c ≠ '-' ∧ c ≠ '+' := by
  cases ds with
  | nil => exact absurd rfl hne
  | cons c r => exact ⟨c, r, rfl, isDigit_ne_sign (hd c (by simp))⟩

theorem parseI64_digits (ds : Str) (hne : ds ≠ []) (hd : ∀ c ∈ ds, c.isDigit = true) :
    let n : Int := (Nat.ofDigitChars 10 ds 0 : Nat)
    parseI64 ds = (if inI64 n then some n else none) ∧
    parseI64 ('+' :: ds) = (if inI64 n then some n else none) ∧
    parseI64 ('-' :: ds) = (if inI64 (-n) then some (-n) else none) := by
  have he : ds.isEmpty = false := by simpa using hne
  obtain ⟨c, r, rfl, h1, h2⟩ := digits_head hne hd
  refine ⟨?_, ?_, ?_⟩ <;> simp [parseI64, h1, h2, he, digitsVal_eq _ hd]

theorem parseI64_intRepr (n : Int) (hn : inI64 n = true) : parseI64 (intRepr n) = some n := by
  have h := parseI64_digits _ (natDigits_ne_nil n.natAbs) (natDigits_isDigit n.natAbs)
  simp only [ofDigitChars_natDigits] at h
  unfold intRepr
  split
  · rw [h.2.2, show -(n.natAbs : Int) = n by omega, hn]; rfl
  · rw [h.1, show (n.natAbs : Int) = n by omega, hn]; rfl

theorem intRepr_injective (n m : Int) (h : intRepr n = intRepr m) : n = m := by
  have hd : ∀ k r, natDigits k ≠ '-' :: r := fun k r e =>
    (isDigit_ne_sign (natDigits_isDigit k '-' (by simp [e]))).1 rfl
  unfold intRepr at h
  split at h <;> split at h
  · have := natDigits_injective _ _ (List.cons.inj h).2; omega
  · exact absurd h.symm (hd _ _)
  · exact absurd h (hd _ _)
  · have := natDigits_injective _ _ h; omega

end Liquid
