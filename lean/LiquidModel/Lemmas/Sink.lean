/-
  The failing-sink simulation (C10): what any render computation does against a sink that accepts
  only `k` more writes is determined by what it does against a sink that never fails.
-/
import LiquidModel.Lemmas.Pres
namespace Liquid

/-- `m` behaves uniformly in the sink: from every runtime `rt` there is one outcome `r`, one end
state `rt'` and one list `δ` of written fragments such that
* against an infallible sink holding `o`, `m` ends with `r`, `rt'` and `o ++ δ`;
* against a sink that accepts `k ≥ |δ|` more writes, exactly the same, with `k - |δ|` left;
* against a sink that accepts `k < |δ|` more writes, `m` fails with the sink's error, having had
  exactly the first `k` fragments accepted (and nothing is written after the failure: the sink
  ends with zero budget and that prefix).  The run stops where the write failed, so its end state
  `rt''` is not `rt'`; nothing is said of it, and so C10 claims nothing about the runtime after a
  failed write. -/
def SinkOk {α} (m : M α) : Prop :=
  ∀ rt, ∃ (r : Res α) (rt' : Rt) (δ : List Str),
    (∀ o, m rt ⟨o, none⟩ = (r, rt', ⟨o ++ δ, none⟩)) ∧
    (∀ o k, δ.length ≤ k → m rt ⟨o, some k⟩ = (r, rt', ⟨o ++ δ, some (k - δ.length)⟩)) ∧
    (∀ o k, k < δ.length → ∃ rt'', m rt ⟨o, some k⟩ = (.io, rt'', ⟨o ++ δ.take k, some 0⟩))

namespace SinkOk

theorem of_sinkless {α} (m : M α) (r : Rt → Res α) (g : Rt → Rt)
    (h : ∀ rt w, m rt w = (r rt, g rt, w)) : SinkOk m := by
  intro rt
  refine ⟨r rt, g rt, [], ?_, ?_, ?_⟩
  · intro o; simp [h]
  · intro o k _; simp [h]
  · intro o k hk; simp at hk

theorem pure {α} (a : α) : SinkOk (Pure.pure a : M α) :=
  of_sinkless _ (fun _ => .ok a) id (fun _ _ => rfl)

theorem lift {α} (r : Res α) : SinkOk (M.lift r) :=
  of_sinkless _ (fun _ => r) id (fun _ _ => rfl)

theorem getSt : SinkOk M.getSt := of_sinkless _ (fun rt => .ok rt.layers) id (fun _ _ => rfl)
theorem getRegs : SinkOk M.getRegs := of_sinkless _ (fun rt => .ok rt.regs) id (fun _ _ => rfl)
theorem setRegs (g : Regs) : SinkOk (M.setRegs g) :=
  of_sinkless _ (fun _ => .ok ()) (fun rt => rt.setRegs g) (fun _ _ => rfl)

theorem emit (s : Str) : SinkOk (M.emit s) := by
  intro rt
  by_cases hs : s = []
  · subst hs
    exact of_sinkless _ (fun _ => .ok ()) id (fun _ _ => rfl) rt
  · have he : s.isEmpty = false := by cases s <;> simp_all
    refine ⟨.ok (), rt, [s], ?_, ?_, ?_⟩
    · intro o; simp [M.emit, W.write, he]
    · intro o k hk
      cases k with
      | zero => simp at hk
      | succ n => simp [M.emit, W.write, he]
    · intro o k hk
      have : k = 0 := by simp at hk; omega
      subst this
      exact ⟨rt, by simp [M.emit, W.write, he]⟩

/-- `_hm` is not used: the body writes into a sink of its own and never sees the outer one -/
theorem capture {m : M Unit} (_hm : SinkOk m) : SinkOk (M.capture m) :=
  of_sinkless _ (fun rt => (M.capture m rt {}).1) (fun rt => (m rt {}).2.1) fun rt w => by
    unfold M.capture; split <;> simp_all

theorem inFrames {α} (ls : List Layer) {m : M α} (hm : SinkOk m) : SinkOk (M.inFrames ls m) := by
  intro rt
  obtain ⟨r, rt', δ, h1, h2, h3⟩ := hm { rt with layers := ls ++ rt.layers }
  refine ⟨r, { rt' with layers := rt'.layers.drop ls.length }, δ, ?_, ?_, ?_⟩
  · intro o; simp [M.inFrames, h1]
  · intro o k hk; simp [M.inFrames, h2 o k hk]
  · intro o k hk
    obtain ⟨rt'', h⟩ := h3 o k hk
    exact ⟨{ rt'' with layers := rt''.layers.drop ls.length }, by simp [M.inFrames, h]⟩

theorem bind {α β} {m : M α} {f : α → M β} (hm : SinkOk m) (hf : ∀ a, SinkOk (f a)) :
    SinkOk (m >>= f) := by
  intro rt
  obtain ⟨r1, rt1, δ1, a1, a2, a3⟩ := hm rt
  rcases r1.ok_or_notok with ⟨a, rfl⟩ | hno
  · obtain ⟨r2, rt2, δ2, b1, b2, b3⟩ := hf a rt1
    refine ⟨r2, rt2, δ1 ++ δ2, ?_, ?_, ?_⟩
    · intro o
      rw [M.run_bind_ok _ _ _ _ _ _ _ (a1 o), b1]
      simp [List.append_assoc]
    · intro o k hk
      simp only [List.length_append] at hk
      rw [M.run_bind_ok _ _ _ _ _ _ _ (a2 o k (by omega)), b2 _ _ (by omega)]
      simp only [List.append_assoc, List.length_append, Nat.sub_sub]
    · intro o k hk
      simp only [List.length_append] at hk
      by_cases h1 : k < δ1.length
      · obtain ⟨rt'', h⟩ := a3 o k h1
        refine ⟨rt'', ?_⟩
        rw [M.run_bind_notok _ _ _ _ _ _ _ h rfl]
        simp [M.castErr, List.take_append_of_le_length (Nat.le_of_lt h1)]
      · have h1' : δ1.length ≤ k := by omega
        obtain ⟨rt'', h⟩ := b3 (o ++ δ1) (k - δ1.length) (by omega)
        refine ⟨rt'', ?_⟩
        rw [M.run_bind_ok _ _ _ _ _ _ _ (a2 o k h1'), h]
        simp [List.take_append, List.take_of_length_le h1', List.append_assoc]
  · refine ⟨M.castErr r1, rt1, δ1, ?_, ?_, ?_⟩
    · intro o; exact M.run_bind_notok _ _ _ _ _ _ _ (a1 o) hno
    · intro o k hk; exact M.run_bind_notok _ _ _ _ _ _ _ (a2 o k hk) hno
    · intro o k hk
      obtain ⟨rt'', h⟩ := a3 o k hk
      exact ⟨rt'', M.run_bind_notok _ _ _ _ _ _ _ h rfl⟩

theorem setLayers (ls : Stack) : SinkOk (M.setLayers ls) :=
  of_sinkless _ (fun _ => .ok ()) (fun rt => { rt with layers := ls }) fun _ _ => rfl

theorem setGlobalM (x : Str) (v : V) : SinkOk (setGlobalM x v) :=
  bind getSt fun _ => bind (lift _) setLayers

theorem setIndexM (x : Str) (v : V) : SinkOk (setIndexM x v) :=
  bind getSt fun _ => bind (lift _) setLayers

end SinkOk

def sinkProp : MProp where
  P := fun m => SinkOk m
  pure := SinkOk.pure
  bind := SinkOk.bind
  lift := SinkOk.lift
  emit := SinkOk.emit
  getSt := SinkOk.getSt
  getRegs := SinkOk.getRegs
  setRegs := SinkOk.setRegs
  setGlobalM := SinkOk.setGlobalM
  setIndexM := SinkOk.setIndexM
  capture := SinkOk.capture
  inPlain := fun d => SinkOk.inFrames [.plain d]
  inSandbox := fun root => SinkOk.inFrames [.global [], .sandbox root {}]

theorem renderT_sinkOk (env : Env) (fuel : Nat) (t : Tmpl) : SinkOk (renderT fuel env t) :=
  MProp.renderT sinkProp env fuel t

end Liquid
