/-
  Helper lemmas for C11 (equality and ordering of values): induction over values, over pairs of
  values and over two lists walked together; `every`.
-/
import LiquidModel.Spec.C11
namespace Liquid.C11L
open Liquid Liquid.C11

/-- `V` is a nested inductive type, whose `V.rec` has motives for the element and entry lists as well;
this is the form `induction … using` takes, with the hypothesis for every element / entry value. -/
theorem valueInduct {P : V → Prop} (nil : P .nil) (st : ∀ s, P (.st s)) (sc : ∀ x, P (.sc x))
    (arr : ∀ xs, (∀ x ∈ xs, P x) → P (.arr xs))
    (obj : ∀ kvs : Obj, (∀ e ∈ kvs, P e.2) → P (.obj kvs)) : ∀ a, P a :=
  V.rec (motive_1 := P) (motive_2 := fun xs => ∀ x ∈ xs, P x)
    (motive_3 := fun kvs => ∀ e ∈ kvs, P e.2) (motive_4 := fun e => P e.2)
    nil st sc arr obj
    (fun _ h => nomatch h)
    (fun _ _ hx hxs y hy => (List.mem_cons.1 hy).elim (· ▸ hx) (hxs y))
    (fun _ h => nomatch h)
    (fun _ _ he hes y hy => (List.mem_cons.1 hy).elim (· ▸ he) (hes y))
    (fun _ _ hv => hv)

/-- two lists walked together, as `zip` and `partial_cmp` walk them -/
theorem zipInduct {α β : Type} {P : List α → List β → Prop} (nil_nil : P [] [])
    (nil_cons : ∀ y ys, P [] (y :: ys)) (cons_nil : ∀ x xs, P (x :: xs) [])
    (cons_cons : ∀ x xs y ys, P xs ys → P (x :: xs) (y :: ys)) : ∀ xs ys, P xs ys
  | [], [] => nil_nil
  | [], y :: ys => nil_cons y ys
  | x :: xs, [] => cons_nil x xs
  | x :: xs, y :: ys => cons_cons x xs y ys (zipInduct nil_nil nil_cons cons_nil cons_cons xs ys)

def isArr : V → Bool | .arr _ => true | _ => false
def isObj : V → Bool | .obj _ => true | _ => false

/-- a pair that is neither two arrays nor two objects: `value_eq` and `value_cmp` do not recurse.
`Bool`-valued so that `rfl` proves it of concrete pairs. -/
def flat (a b : V) : Bool := !(isArr a && isArr b) && !(isObj a && isObj b)

theorem flat_comm {a b : V} (h : flat a b = true) : flat b a = true := by
  rwa [flat, Bool.and_comm (isArr b), Bool.and_comm (isObj b)]

/-- Induction on a pair of values along the recursion of `value_eq` / `value_cmp`: two arrays
(hypothesis for every pair of elements), two objects (for every pair of entry values, in both orders:
`value_eq` puts the looked-up value of the right object on the left), anything else. -/
theorem pairInduct {P : V → V → Prop}
    (arr : ∀ xs ys, (∀ x ∈ xs, ∀ y ∈ ys, P x y) → P (.arr xs) (.arr ys))
    (obj : ∀ xs ys : Obj, (∀ e ∈ xs, ∀ e' ∈ ys, P e.2 e'.2 ∧ P e'.2 e.2) → P (.obj xs) (.obj ys))
    (other : ∀ a b, flat a b = true → P a b) (a b : V) : P a b := by
  suffices h : ∀ a b, P a b ∧ P b a from (h a b).1
  intro a
  induction a using valueInduct with
  | arr xs ih =>
    intro b
    cases b with
    | arr ys => exact ⟨arr xs ys fun x hx y _ => (ih x hx y).1, arr ys xs fun y _ x hx => (ih x hx y).2⟩
    | _ => exact ⟨other _ _ rfl, other _ _ rfl⟩
  | obj xs ih =>
    intro b
    cases b with
    | obj ys => exact ⟨obj xs ys fun e he e' _ => ih e he e'.2, obj ys xs fun e' _ e he => (ih e he e'.2).symm⟩
    | _ => exact ⟨other _ _ rfl, other _ _ rfl⟩
  | _ => exact fun b => ⟨other _ b rfl, other b _ (flat_comm rfl)⟩

theorem everyL_iff (p : V → Bool) (xs : List V) : everyL p xs = true ↔ ∀ x ∈ xs, x.every p = true := by
  induction xs with
  | nil => simp [everyL]
  | cons x xs ih => simp [everyL, ih]

theorem everyO_iff (p : V → Bool) (kvs : List (Str × V)) :
    everyO p kvs = true ↔ ∀ e ∈ kvs, e.2.every p = true := by
  induction kvs with
  | nil => simp [everyO]
  | cons e kvs ih => cases e with | mk k v => simp [everyO, ih]

theorem every_arr (p : V → Bool) (xs : List V) :
    (V.arr xs).every p = true ↔ p (.arr xs) = true ∧ ∀ x ∈ xs, x.every p = true := by
  simp [V.every, everyL_iff]

theorem every_obj (p : V → Bool) (kvs : List (Str × V)) :
    (V.obj kvs).every p = true ↔ p (.obj kvs) = true ∧ ∀ e ∈ kvs, e.2.every p = true := by
  simp [V.every, everyO_iff]

/-- the side conditions `WF`, `NoTruthy`, `WFV`, `NaNFree` are all `every p`: they pass to the
elements of an array and to the entry values of an object -/
theorem every_arr_mem {p : V → Bool} {xs : List V} (h : (V.arr xs).every p = true) {x : V} (hx : x ∈ xs) :
    x.every p = true := ((every_arr _ _).1 h).2 x hx

theorem every_obj_mem {p : V → Bool} {kvs : Obj} (h : (V.obj kvs).every p = true) {e : Str × V} (he : e ∈ kvs) :
    e.2.every p = true := ((every_obj _ _).1 h).2 e he

theorem every_top (p : V → Bool) (a : V) (h : a.every p = true) : p a = true := by
  cases a with
  | arr xs => exact ((every_arr _ _).1 h).1
  | obj kvs => exact ((every_obj _ _).1 h).1
  | _ => exact h

theorem every_mono {p q : V → Bool} (hpq : ∀ v, p v = true → q v = true) :
    ∀ a : V, a.every p = true → a.every q = true := by
  intro a
  induction a using valueInduct with
  | arr xs ih => rw [every_arr, every_arr]; exact fun h => ⟨hpq _ h.1, fun x hx => ih x hx (h.2 x hx)⟩
  | obj kvs ih => rw [every_obj, every_obj]; exact fun h => ⟨hpq _ h.1, fun e he => ih e he (h.2 e he)⟩
  | _ => exact hpq _

theorem noTruthy_of_wf (a : V) (h : WF a = true) : NoTruthy a = true := by
  refine every_mono (p := isNoMarker) (q := isNoTruthy) ?_ a h
  intro v hv
  cases v with
  | st s => cases s <;> first | rfl | cases hv
  | _ => rfl

end Liquid.C11L
