/-
  Fuel is only a device: the pure evaluators never return `Res.fuel`, a template whose nesting depth
  (plus that of the partials it can reach) is below the fuel never runs out of it, and giving more
  fuel never changes a result that was not `fuel`.
-/
import LiquidModel.Lemmas.Pres
namespace Liquid

def Res.isFuel {α} : Res α → Bool | .fuel => true | _ => false

theorem Res.not_fuel_of_plain {α} {r : Res α} (h : r.plain = true) : r.isFuel = false := by
  cases r <;> first | rfl | cases h

theorem evalIdx_not_fuel (st : Stack) : ∀ es : List Expr, (evalIdx st es).isFuel = false :=
  fun es => Res.not_fuel_of_plain (evalIdx_plain st es)

def FiltersNoFuel (env : Env) : Prop := ∀ name f, env.filters name = some f → ∀ v args, (f v args).isFuel = false

theorem evalChain_not_fuel (env : Env) (hf : FiltersNoFuel env) (st : Stack) (e : Expr) (fs : List FCall) :
    (evalChain env st e fs).isFuel = false := by
  rcases evalChain_cases env st e fs with h | ⟨name, f, v, args, hn, h⟩
  · exact Res.not_fuel_of_plain h
  · rw [h]; exact hf name f hn v args

/-! ### depth and partial-freedom of templates -/

mutual
/-- the fuel an element needs: 1 for a leaf, 1 more than its deepest body for a block -/
def dN : Node → Nat
  | .capture _ b => dL b + 1
  | .cond _ _ t e => max (dL t) (dO e) + 1
  | .case_ _ arms e => max (dA arms) (dO e) + 1
  | .for_ _ _ _ _ _ b e => max (dL b) (dO e) + 1
  | .tablerow _ _ _ _ _ b => dL b + 1
  | .ifchanged b => dL b + 1
  | _ => 1
def dL : List Node → Nat
  | [] => 0
  | n :: r => max (dN n) (dL r)
def dO : Option (List Node) → Nat
  | none => 0
  | some t => dL t
def dA : List (List Expr × List Node) → Nat
  | [] => 0
  | (_, b) :: r => max (dL b) (dA r)
end

mutual
/-- no partial call (`include` / `render`) anywhere inside -/
def npN : Node → Bool
  | .include_ _ _ => false
  | .render_ _ _ _ => false
  | .capture _ b => npL b
  | .cond _ _ t e => npL t && npO e
  | .case_ _ arms e => npA arms && npO e
  | .for_ _ _ _ _ _ b e => npL b && npO e
  | .tablerow _ _ _ _ _ b => npL b
  | .ifchanged b => npL b
  | _ => true
def npL : List Node → Bool
  | [] => true
  | n :: r => npN n && npL r
def npO : Option (List Node) → Bool
  | none => true
  | some t => npL t
def npA : List (List Expr × List Node) → Bool
  | [] => true
  | (_, b) :: r => npL b && npA r
end

theorem npL_eq_all : ∀ t : List Node, npL t = t.all npN
  | [] => rfl
  | n :: r => by rw [npL, List.all_cons, npL_eq_all r]

theorem npA_eq_all : ∀ arms : List (List Expr × List Node), npA arms = (arms.map (·.2)).all npL
  | [] => rfl
  | (_, b) :: r => by rw [npA, List.map_cons, List.all_cons, npA_eq_all r]

theorem npO_eq_all (e : Option (List Node)) : npO e = e.toList.all npL := by
  cases e <;> simp [npO]

theorem npN_of_npL (t : List Node) (h : npL t = true) : ∀ n ∈ t, npN n = true :=
  List.all_eq_true.mp (npL_eq_all t ▸ h)

theorem npL_bodies (n : Node) (h : npN n = true) : ∀ t ∈ n.bodies, npL t = true := by
  refine List.all_eq_true.mp ?_
  -- goes through the node kinds by the equations of `npN` and `Node.bodies`: extend when `Node` grows
  cases n <;> simp only [npN, Bool.and_eq_true, npA_eq_all, npO_eq_all] at h <;> simp [Node.bodies, h]

theorem dN_le_dL : ∀ (t : List Node) (n : Node), n ∈ t → dN n ≤ dL t
  | [], _, h => by simp at h
  | a :: r, n, h => by
    simp only [dL]
    rcases List.mem_cons.mp h with rfl | h'
    · exact Nat.le_max_left _ _
    · exact Nat.le_trans (dN_le_dL r n h') (Nat.le_max_right _ _)

theorem dL_le_dA : ∀ (arms : List (List Expr × List Node)) (b : List Node), b ∈ arms.map (·.2) → dL b ≤ dA arms
  | [], _, h => by cases h
  | (_, bd) :: r, b, h => by
    simp only [dA]
    rcases List.mem_cons.mp h with rfl | h'
    · exact Nat.le_max_left _ _
    · exact Nat.le_trans (dL_le_dA r b h') (Nat.le_max_right _ _)

theorem dL_le_dO (e : Option (List Node)) : ∀ t ∈ e.toList, dL t ≤ dO e := by
  intro t ht
  cases e with
  | none => cases ht
  | some b => rw [List.mem_singleton.mp ht]; exact Nat.le_refl _

theorem dL_bodies (n : Node) : ∀ t ∈ n.bodies, dL t + 1 ≤ dN n := by
  intro t ht
  -- goes through the node kinds, those with a body by name: extend when `Node` grows
  cases n <;> simp only [Node.bodies, List.mem_cons, List.mem_append, List.not_mem_nil, or_false] at ht <;>
    simp only [dN] <;> refine Nat.succ_le_succ ?_
  case capture | tablerow | ifchanged => rw [ht]; exact Nat.le_refl _
  case cond c mode thn e | for_ x rng l o rev thn e =>
    rcases ht with rfl | ht
    · exact Nat.le_max_left _ _
    · exact Nat.le_trans (dL_le_dO e t ht) (Nat.le_max_right _ _)
  case case_ target arms e =>
    rcases ht with ht | ht
    · exact Nat.le_trans (dL_le_dA arms t ht) (Nat.le_max_left _ _)
    · exact Nat.le_trans (dL_le_dO e t ht) (Nat.le_max_right _ _)

theorem npN_false_of_isCall (n : Node) (h : n.isCall = true) : npN n = false := by
  cases n <;> first | rfl | cases h

/-! ### computations that never run out of fuel -/

def NF {α : Type} (m : M α) : Prop := ∀ rt w, (m rt w).1.isFuel = false

theorem setGlobal_not_fuel (st : Stack) (k : Str) (v : V) : (st.setGlobal k v).isFuel = false := by
  rcases Stack.setGlobal_cases st k v with ⟨_, _, _, _, _, h⟩ | ⟨_, _, h⟩ <;> rw [h] <;> rfl

theorem setIndex_not_fuel (st : Stack) (k : Str) (v : V) : (st.setIndex k v).isFuel = false := by
  rcases Stack.setIndex_cases st k v with ⟨_, _, _, _, _, h⟩ | ⟨_, _, h⟩ <;> rw [h] <;> rfl

namespace NF

theorem pure {α} (a : α) : NF (Pure.pure a : M α) := fun _ _ => rfl
theorem lift {α} (r : Res α) (h : r.isFuel = false) : NF (M.lift r) := fun _ _ => h
theorem getSt : NF M.getSt := fun _ _ => rfl
theorem getRegs : NF M.getRegs := fun _ _ => rfl
theorem setRegs (g : Regs) : NF (M.setRegs g) := fun _ _ => rfl
theorem emit (s : Str) : NF (M.emit s) := fun rt w => by unfold M.emit; cases w.write s <;> rfl

theorem bind {α β} {m : M α} {f : α → M β} (hm : NF m) (hf : ∀ a, NF (f a)) : NF (m >>= f) := by
  intro rt w
  have h1 := hm rt w
  rw [M.run_bind]
  rcases hr : m rt w with ⟨r, rt', w'⟩
  rw [hr] at h1
  cases r with
  | ok a => exact hf a rt' w'
  | fuel => exact h1
  | _ => rfl

theorem setGlobalM (x : Str) (v : V) : NF (setGlobalM x v) :=
  bind getSt fun st => bind (lift _ (setGlobal_not_fuel st x v)) fun _ _ _ => rfl

theorem setIndexM (x : Str) (v : V) : NF (setIndexM x v) :=
  bind getSt fun st => bind (lift _ (setIndex_not_fuel st x v)) fun _ _ _ => rfl

theorem capture {m : M Unit} (hm : NF m) : NF (M.capture m) := by
  intro rt w
  have h := hm rt {}
  unfold M.capture
  rcases hr : m rt {} with ⟨r, rt', cw⟩
  cases r <;> simp_all [Res.isFuel, M.castErr]

theorem inFrames {α} (ls : List Layer) {m : M α} (hm : NF m) : NF (M.inFrames ls m) :=
  fun rt w => hm { rt with layers := ls ++ rt.layers } w

end NF

def nfRel : MRel where
  R := fun m _ => NF m
  S := Eq
  G := fun r => r.isFuel = false
  view := fun h => h ▸ NI.SameView.refl _
  plain := Res.not_fuel_of_plain
  cast := fun {_ _ r} h => by cases r <;> first | rfl | exact h
  pure := NF.pure
  bind := fun hm hk => NF.bind hm hk
  getSt := fun hk => NF.bind NF.getSt fun s => hk s s rfl
  lift := fun hg => NF.lift _ hg
  emit := NF.emit
  getRegs := NF.getRegs
  setRegs := NF.setRegs
  setGlobalM := NF.setGlobalM
  setIndexM := NF.setIndexM
  capture := fun h => NF.capture h
  inPlain := fun _ _ _ h => NF.inFrames _ h
  inSandbox := fun _ _ _ h => NF.inFrames _ h

/-- the partial store never answers `fuel`, and what it hands out renders without running out of
fuel whenever at least `k` is given.  `renderList (renderN f env) t` is `renderT f env t`, spelt as the
`include` and `render` arms of `renderN` spell it, which is where the hypothesis is used. -/
def LookupNF (env : Env) (k : Nat) : Prop :=
  ∀ name, (env.lookup name).isFuel = false ∧
    ∀ t, env.lookup name = .ok t → ∀ f, k ≤ f → NF (Liquid.renderList (Liquid.renderN f env) t)

theorem one_le_dN (n : Node) : 1 ≤ dN n := by
  cases n <;> first | exact Nat.le_refl 1 | exact Nat.le_add_left 1 _

/-- **Enough fuel is enough.** A template whose depth plus `k` is at most the fuel never runs out of
fuel, if it contains no partial call or the store's templates never run out of fuel given `k`. -/
theorem renderT_nf (env : Env) (hf : FiltersNoFuel env) (k : Nat) :
    ∀ fuel t, dL t + k ≤ fuel → (npL t = true ∨ LookupNF env k) → NF (renderT fuel env t)
  | 0, t, hd, _ => nfRel.renderT env 0 0 t fun n hn => by
    -- there is no such `n`: it would have `1 ≤ dN n ≤ dL t ≤ 0`
    have := dN_le_dL t n hn
    have := one_le_dN n
    omega
  | fuel + 1, t, hd, hp => nfRel.renderT env _ (fuel + 1) t fun n hn => by
    have hdn := dN_le_dL t n hn
    have hpn := hp.imp (fun h => npN_of_npL t h n hn) id
    refine nfRel.renderN_succ env fuel fuel (evalChain_not_fuel env hf) (fun _ _ => rfl) n (fun b hb => ?_)
      (fun _ _ => rfl) (fun hc name => ?_)
    · have := dL_bodies n b hb
      exact renderT_nf env hf k fuel b (by omega) (hpn.imp (fun h => npL_bodies n h b hb) id)
    · have hl : LookupNF env k := hpn.resolve_left (by rw [npN_false_of_isCall n hc]; exact Bool.false_ne_true)
      have := one_le_dN n
      exact ⟨(hl name).1, fun b hb => (hl name).2 b hb fuel (by omega)⟩

/-! ### more fuel never changes a result -/

def Mono {α : Type} (m1 m2 : M α) : Prop := ∀ rt w, (m1 rt w).1.isFuel = false → m2 rt w = m1 rt w

namespace Mono

theorem refl {α} (m : M α) : Mono m m := fun _ _ _ => rfl

theorem bind {α β} {m1 m2 : M α} {f1 f2 : α → M β} (hm : Mono m1 m2) (hf : ∀ a, Mono (f1 a) (f2 a)) :
    Mono (m1 >>= f1) (m2 >>= f2) := by
  intro rt w h
  rw [M.run_bind] at h
  rw [M.run_bind, M.run_bind]
  rcases hr : m1 rt w with ⟨r, rt', w'⟩
  rw [hr] at h
  have h1 : (m1 rt w).1.isFuel = false := by
    rw [hr]; cases r <;> first | rfl | exact h
  rw [hm rt w h1, hr]
  cases r with
  | ok a => exact hf a rt' w' h
  | _ => rfl

theorem capture {m1 m2 : M Unit} (hm : Mono m1 m2) : Mono (M.capture m1) (M.capture m2) := by
  intro rt w h
  unfold M.capture at h ⊢
  rcases hr : m1 rt {} with ⟨r, rt', cw⟩
  rw [hr] at h
  have h1 : (m1 rt {}).1.isFuel = false := by
    rw [hr]; cases r <;> first | rfl | exact h
  rw [hm rt {} h1, hr]

theorem inFrames {α} (ls : List Layer) {m1 m2 : M α} (hm : Mono m1 m2) :
    Mono (M.inFrames ls m1) (M.inFrames ls m2) := by
  intro rt w h
  unfold M.inFrames
  rw [hm { rt with layers := ls ++ rt.layers } w h]

end Mono

def monoRel : MRel where
  R := Mono
  S := Eq
  G := fun _ => True
  view := fun h => h ▸ NI.SameView.refl _
  plain := fun _ => trivial
  cast := fun _ => trivial
  pure := fun _ => Mono.refl _
  bind := Mono.bind
  getSt := fun hk => Mono.bind (Mono.refl _) fun s => hk s s rfl
  lift := fun _ => Mono.refl _
  emit := fun _ => Mono.refl _
  getRegs := Mono.refl _
  setRegs := fun _ => Mono.refl _
  setGlobalM := fun _ _ => Mono.refl _
  setIndexM := fun _ _ => Mono.refl _
  capture := Mono.capture
  inPlain := fun _ _ _ h => Mono.inFrames _ h
  inSandbox := fun _ _ _ h => Mono.inFrames _ h

/-- **Fuel monotonicity.** If rendering a template with some fuel did not run out of it, rendering
it with one more unit gives exactly the same result, runtime and output. -/
theorem renderT_mono_succ (env : Env) : ∀ fuel t, Mono (renderT fuel env t) (renderT (fuel + 1) env t)
  | 0, t => monoRel.renderList t fun n _ rt w h => by rw [renderN_zero] at h; cases h
  | fuel + 1, t => monoRel.renderList t fun n _ =>
    monoRel.renderN_succ env fuel (fuel + 1) (fun _ _ _ => trivial) (fun _ _ => trivial) n
      (fun b _ => renderT_mono_succ env fuel b) (fun _ _ => trivial)
      (fun _ _ => ⟨trivial, fun b _ => renderT_mono_succ env fuel b⟩)

theorem renderT_mono (env : Env) (fuel extra : Nat) (t : Tmpl) (rt : Rt) (w : W)
    (h : (renderT fuel env t rt w).1.isFuel = false) :
    renderT (fuel + extra) env t rt w = renderT fuel env t rt w := by
  induction extra with
  | zero => rfl
  | succ e ih =>
    have hm := renderT_mono_succ env (fuel + e) t rt w
    rw [ih] at hm
    rw [← Nat.add_assoc, hm h]

end Liquid
