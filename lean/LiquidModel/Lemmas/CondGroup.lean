/-
  The two loops of `parse_condition` (`Model/CondParse.lean`), for the general grouping theorem
  (`C06_grouping`, `C06_grouping_unique`, `C06_grouping_truth` in Props/C06.lean): a flat token sequence
  `a11 and a12 … or a21 and … or …` of ANY shape parses to the left-nested disjunction of the
  left-nested conjunctions of its atoms — `and` binds tighter than `or`, both associate to the left —
  and, conversely, every accepted token sequence has that shape.
-/
import LiquidModel.Model.CondParse
namespace Liquid.CondGroup

/-- an atomic condition: a bare value, or `value op value` -/
inductive Atom where
  | ex (e : Expr)
  | bin (l : Expr) (o : CmpOp) (r : Expr)

def Atom.toks : Atom → List CTok
  | .ex e => [.val e]
  | .bin l o r => [.val l, .cmp o, .val r]

def Atom.cond : Atom → Cond
  | .ex e => .exist e
  | .bin l o r => .bin l o r

/-- a conjunction group: first atom and the atoms joined to it by `and` -/
abbrev Group := Atom × List Atom

def andTail (bs : List Atom) : List CTok := bs.flatMap fun b => CTok.and_ :: b.toks
def conjToks (g : Group) : List CTok := g.1.toks ++ andTail g.2
def conjTree (g : Group) : Cond := g.2.foldl (fun c b => Cond.and c b.cond) g.1.cond
def orTail (gs : List Group) : List CTok := gs.flatMap fun g => CTok.or_ :: conjToks g
/-- the token sequence `g or g1 or g2 …` -/
def disjToks (g : Group) (gs : List Group) : List CTok := conjToks g ++ orTail gs
/-- its expected parse: `((g or g1) or g2) …` with every group `((a and b) and c) …` -/
def disjTree (g : Group) (gs : List Group) : Cond := gs.foldl (fun c g => Cond.or c (conjTree g)) (conjTree g)

def Sep : List CTok → Prop
  | [] => True
  | .and_ :: _ => True
  | .or_ :: _ => True
  | _ => False

def OrSep : List CTok → Prop
  | [] => True
  | .or_ :: _ => True
  | _ => False

theorem OrSep.sep : ∀ {r : List CTok}, OrSep r → Sep r
  | [], _ => trivial
  | .or_ :: _, _ => trivial

theorem parseAtom_toks (a : Atom) (rest : List CTok) (h : Sep rest) :
    parseAtom (a.toks ++ rest) = some (a.cond, rest) := by
  cases a with
  | bin l o r => rfl
  | ex e =>
    match rest, h with
    | [], _ => rfl
    | .and_ :: _, _ => rfl
    | .or_ :: _, _ => rfl

theorem sep_andTail (bs : List Atom) (rest : List CTok) (h : OrSep rest) : Sep (andTail bs ++ rest) := by
  cases bs with
  | nil => simpa [andTail] using h.sep
  | cons b bs => simp [andTail, Sep]

theorem conjLoop_andTail (bs : List Atom) : ∀ (fuel : Nat) (lh : Cond) (rest : List CTok),
    bs.length < fuel → OrSep rest →
    conjLoop fuel lh (andTail bs ++ rest) = some (bs.foldl (fun c b => Cond.and c b.cond) lh, rest) := by
  induction bs with
  | nil =>
    intro fuel lh rest hf hr
    obtain ⟨f, rfl⟩ := Nat.exists_eq_add_one_of_ne_zero (Nat.ne_zero_of_lt hf)
    match rest, hr with
    | [], _ => rfl
    | .or_ :: _, _ => rfl
  | cons b bs ih =>
    intro fuel lh rest hf hr
    obtain ⟨f, rfl⟩ := Nat.exists_eq_add_one_of_ne_zero (Nat.ne_zero_of_lt hf)
    have e : andTail (b :: bs) ++ rest = CTok.and_ :: (b.toks ++ (andTail bs ++ rest)) := by
      simp [andTail]
    rw [e, conjLoop, parseAtom_toks b _ (sep_andTail bs rest hr)]
    exact ih f (.and lh b.cond) rest (Nat.lt_of_succ_lt_succ hf) hr

theorem parseConj_toks (g : Group) (fuel : Nat) (rest : List CTok) (hf : g.2.length < fuel) (hr : OrSep rest) :
    parseConj fuel (conjToks g ++ rest) = some (conjTree g, rest) := by
  unfold parseConj conjToks
  rw [List.append_assoc, parseAtom_toks g.1 _ (sep_andTail g.2 rest hr)]
  exact conjLoop_andTail g.2 fuel g.1.cond rest hf hr

theorem toks_length_pos (a : Atom) : 1 ≤ a.toks.length := by cases a <;> simp [Atom.toks]

theorem andTail_length (bs : List Atom) : 2 * bs.length ≤ (andTail bs).length := by
  induction bs with
  | nil => simp [andTail]
  | cons b bs ih =>
    have := toks_length_pos b
    simp only [andTail, List.flatMap_cons, List.length_cons, List.length_append] at *
    omega

theorem conjToks_length (g : Group) : 2 * g.2.length + 1 ≤ (conjToks g).length := by
  have := toks_length_pos g.1
  have := andTail_length g.2
  simp only [conjToks, List.length_append]
  omega

theorem orSep_orTail (gs : List Group) : OrSep (orTail gs) := by
  cases gs <;> simp [orTail, OrSep]

theorem disjLoop_orTail (gs : List Group) : ∀ (fuel : Nat) (lh : Cond),
    (orTail gs).length < fuel →
    disjLoop fuel lh (orTail gs) = some (gs.foldl (fun c g => Cond.or c (conjTree g)) lh) := by
  induction gs with
  | nil =>
    intro fuel lh hf
    obtain ⟨f, rfl⟩ := Nat.exists_eq_add_one_of_ne_zero (Nat.ne_zero_of_lt hf)
    rfl
  | cons g gs ih =>
    intro fuel lh hf
    obtain ⟨f, rfl⟩ := Nat.exists_eq_add_one_of_ne_zero (Nat.ne_zero_of_lt hf)
    have e : orTail (g :: gs) = CTok.or_ :: (conjToks g ++ orTail gs) := by simp [orTail]
    have hl := conjToks_length g
    rw [e] at hf ⊢
    simp only [List.length_cons, List.length_append] at hf
    rw [disjLoop, parseConj_toks g f _ (by omega) (orSep_orTail gs)]
    exact ih f (.or lh (conjTree g)) (by omega)

/-! ### the value of a grouped condition -/

theorem eval_and_fold (st : Stack) (tv : Atom → Bool) (bs : List Atom) :
    ∀ (c : Cond) (bc : Bool), c.eval st = .ok bc → (∀ b ∈ bs, b.cond.eval st = .ok (tv b)) →
    Cond.eval st (bs.foldl (fun c b => Cond.and c b.cond) c) = .ok (bc && bs.all tv) := by
  induction bs with
  | nil => intro c bc hc _; simpa using hc
  | cons b bs ih =>
    intro c bc hc hb
    have h1 : Cond.eval st (.and c b.cond) = .ok (bc && tv b) := by
      have := hb b (by simp)
      cases bc <;> simp [Cond.eval, hc, this, bind, Res.bind, pure]
    have := ih (.and c b.cond) (bc && tv b) h1 (fun x hx => hb x (by simp [hx]))
    simpa [List.foldl_cons, List.all_cons, Bool.and_assoc] using this

theorem eval_conjTree (st : Stack) (tv : Atom → Bool) (g : Group)
    (h : ∀ b ∈ g.1 :: g.2, b.cond.eval st = .ok (tv b)) :
    (conjTree g).eval st = .ok ((g.1 :: g.2).all tv) := by
  have := eval_and_fold st tv g.2 g.1.cond (tv g.1) (h g.1 (by simp)) (fun b hb => h b (by simp [hb]))
  simpa [conjTree, List.all_cons] using this

theorem eval_or_fold (st : Stack) (tv : Atom → Bool) (gs : List Group) :
    ∀ (c : Cond) (bc : Bool), c.eval st = .ok bc →
    (∀ g ∈ gs, ∀ b ∈ g.1 :: g.2, b.cond.eval st = .ok (tv b)) →
    Cond.eval st (gs.foldl (fun c g => Cond.or c (conjTree g)) c) = .ok (bc || gs.any fun g => (g.1 :: g.2).all tv) := by
  induction gs with
  | nil => intro c bc hc _; simpa using hc
  | cons g gs ih =>
    intro c bc hc hg
    have hgt := eval_conjTree st tv g (hg g (by simp))
    have h1 : Cond.eval st (.or c (conjTree g)) = .ok (bc || (g.1 :: g.2).all tv) := by
      cases bc <;> simp [Cond.eval, hc, hgt, bind, Res.bind, pure]
    have := ih (.or c (conjTree g)) _ h1 (fun x hx => hg x (by simp [hx]))
    simpa [List.foldl_cons, List.any_cons, Bool.or_assoc] using this

/-- a grouped condition whose atoms all evaluate is true iff some group has all its atoms true -/
theorem eval_disjTree (st : Stack) (tv : Atom → Bool) (g : Group) (gs : List Group)
    (h : ∀ x ∈ g :: gs, ∀ b ∈ x.1 :: x.2, b.cond.eval st = .ok (tv b)) :
    (disjTree g gs).eval st = .ok ((g :: gs).any fun x => (x.1 :: x.2).all tv) := by
  have := eval_or_fold st tv gs (conjTree g) _ (eval_conjTree st tv g (h g (by simp)))
    (fun x hx => h x (by simp [hx]))
  simpa [disjTree, List.any_cons] using this

/-! ### converse: everything `parse_condition` accepts has that shape -/

theorem parseAtom_shape {toks rest : List CTok} {c : Cond} (h : parseAtom toks = some (c, rest)) :
    ∃ a : Atom, toks = a.toks ++ rest ∧ c = a.cond := by
  unfold parseAtom at h
  split at h
  · cases h; exact ⟨.bin _ _ _, rfl, rfl⟩
  · cases h
  · cases h; exact ⟨.ex _, rfl, rfl⟩
  · cases h

theorem conjLoop_shape : ∀ (fuel : Nat) (lh : Cond) (toks rest : List CTok) (c : Cond),
    conjLoop fuel lh toks = some (c, rest) →
    ∃ bs : List Atom, toks = andTail bs ++ rest ∧ c = bs.foldl (fun c b => Cond.and c b.cond) lh := by
  intro fuel
  induction fuel with
  | zero => intro lh toks rest c h; simp [conjLoop] at h
  | succ f ih =>
    intro lh toks rest c h
    unfold conjLoop at h
    split at h
    · cases h
    · next heq =>
      -- `and`: an atom must follow, and the loop goes on after it
      cases heq
      split at h
      · next hp =>
        obtain ⟨a, ht, hc⟩ := parseAtom_shape hp
        obtain ⟨bs, hbs, hcs⟩ := ih _ _ _ _ h
        refine ⟨a :: bs, ?_, ?_⟩
        · simp [andTail, ht, hbs]
        · simp [hcs, hc]
      · cases h
    · -- any other token, or none, ends the chain
      cases h
      exact ⟨[], by simp [andTail], rfl⟩

theorem parseConj_shape {fuel : Nat} {toks rest : List CTok} {c : Cond}
    (h : parseConj fuel toks = some (c, rest)) :
    ∃ g : Group, toks = conjToks g ++ rest ∧ c = conjTree g := by
  unfold parseConj at h
  split at h
  · next hp =>
    obtain ⟨a, ht, hc⟩ := parseAtom_shape hp
    obtain ⟨bs, hbs, hcs⟩ := conjLoop_shape _ _ _ _ _ h
    exact ⟨(a, bs), by simp [conjToks, ht, hbs], by simp [conjTree, hcs, hc]⟩
  · cases h

theorem disjLoop_shape : ∀ (fuel : Nat) (lh : Cond) (toks : List CTok) (c : Cond),
    disjLoop fuel lh toks = some c →
    ∃ gs : List Group, toks = orTail gs ∧ c = gs.foldl (fun c g => Cond.or c (conjTree g)) lh := by
  intro fuel
  induction fuel with
  | zero => intro lh toks c h; simp [disjLoop] at h
  | succ f ih =>
    intro lh toks c h
    unfold disjLoop at h
    split at h
    · cases h
    · -- no token left
      cases h
      exact ⟨[], by simp [orTail], rfl⟩
    · next heq =>
      -- `or`: a conjunction chain must follow, and the loop goes on after it
      cases heq
      split at h
      · next hp =>
        obtain ⟨g, ht, hc⟩ := parseConj_shape hp
        obtain ⟨gs, hgs, hcs⟩ := ih _ _ _ h
        exact ⟨g :: gs, by simp [orTail, ht, hgs], by simp [hcs, hc]⟩
      · cases h
    · -- any other token is rejected
      cases h

end Liquid.CondGroup
