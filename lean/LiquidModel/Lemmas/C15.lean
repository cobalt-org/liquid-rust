/-
  Helper lemmas for C15 (arithmetic filters): what `binScalars`, `toI64Filter` and `roundGo` return
  on each form of operand, the induction principle of the filter table, the arithmetic of
  floor / ceil / round on `q / 2^1074`, decimal strings as doubles, and the largest double below `2^63`.
-/
import LiquidModel.Model.Math
import LiquidModel.Lemmas.Digits
namespace Liquid.C15

theorem mathFiltersWith_ind (ar : IntArith) (ops : FloatOps) {P : (V → List V → Res V) → Prop}
    (habs : P (absFilter ar)) (hbin : ∀ op, P (binFilter ar ops op)) (hround : P (roundFilter ops))
    (hto : ∀ mode, P (toI64Filter mode))
    {name : Str} {f : V → List V → Res V} (h : mathFiltersWith ar ops name = some f) : P f := by
  unfold mathFiltersWith at h
  -- row by row: `split at h` would re-simplify the whole remaining chain, string literals and all,
  -- at every row
  obtain ⟨-, ⟨⟩⟩ | ⟨-, h⟩ := ite_eq_cases h; exact habs
  iterate 7 (obtain ⟨-, ⟨⟩⟩ | ⟨-, h⟩ := ite_eq_cases h; exact hbin _)
  obtain ⟨-, ⟨⟩⟩ | ⟨-, h⟩ := ite_eq_cases h; exact hround
  iterate 2 (obtain ⟨-, ⟨⟩⟩ | ⟨-, h⟩ := ite_eq_cases h; exact hto _)
  cases h

/-- the parameters occur only in what a row returns -/
theorem mathFiltersWith_isSome (ar ar' : IntArith) (ops ops' : FloatOps) (name : Str) :
    (mathFiltersWith ar ops name).isSome = (mathFiltersWith ar' ops' name).isSome := by
  unfold mathFiltersWith
  simp only [apply_ite Option.isSome, Option.isSome_some]

/-! ### the binary filters, by form of the operands -/

section
variable {ar : IntArith} {ops : FloatOps} {op : MathOp} {x y : Sc}

theorem floatPath_some {fx fy : Nat} (hx : x.toFloatBits? = some fx) (hy : y.toFloatBits? = some fy) :
    floatPath ops op x y = .ok (fltV (binFlt ops op fx fy)) := by
  unfold floatPath
  rw [hx, hy]

theorem floatPath_cases (ops : FloatOps) (op : MathOp) (x y : Sc) :
    floatPath ops op x y = .err ∨ ∃ f, floatPath ops op x y = .ok (fltV f) := by
  unfold floatPath
  split
  · exact Or.inr ⟨_, rfl⟩
  · exact Or.inl rfl

theorem zeroGuard_int {b : Int} (hy : y.toInteger? = some b) : zeroGuard y = (b == 0) := by
  unfold zeroGuard
  rw [hy]

theorem zeroGuard_float {f : Nat} (hi : y.toInteger? = none) (hf : y.toFloatBits? = some f) :
    zeroGuard y = fIsZero f := by
  unfold zeroGuard
  rw [hi, hf]

theorem binScalars_zero (hd : op.isDiv = true) (hz : zeroGuard y = true) :
    binScalars ar ops op x y = .err := by
  unfold binScalars
  rw [hd, hz]
  rfl

/-- In the next three the guard is the condition of `binScalars` itself: for an `op` that is not a
division it holds by `rfl`, for a division it is `zeroGuard y = false` up to reduction. -/
theorem binScalars_int_some {a b r : Int} (hx : x.toInteger? = some a) (hy : y.toInteger? = some b)
    (hg : (op.isDiv && zeroGuard y) = false) (h : ar.bin op a b = .ok (some r)) :
    binScalars ar ops op x y = .ok (intV r) := by
  unfold binScalars
  rw [hg, hx, hy, if_neg Bool.false_ne_true]
  simp only [h]

theorem binScalars_int_none {a b : Int} (hx : x.toInteger? = some a) (hy : y.toInteger? = some b)
    (hg : (op.isDiv && zeroGuard y) = false) (h : ar.bin op a b = .ok none) :
    binScalars ar ops op x y = floatPath ops op x y := by
  unfold binScalars
  rw [hg, hx, hy, if_neg Bool.false_ne_true]
  simp only [h]

theorem binScalars_not_int (hint : x.toInteger? = none ∨ y.toInteger? = none)
    (hg : (op.isDiv && zeroGuard y) = false) :
    binScalars ar ops op x y = floatPath ops op x y := by
  unfold binScalars
  rw [hg, if_neg Bool.false_ne_true]
  rcases hint with h | h
  · rw [h]
  · rw [h]
    cases x.toInteger? <;> rfl

end

/-! ### the unary filters, by form of the operand -/

theorem toI64Filter_int {mode : Int → Int} {x : Sc} {i : Int} (hi : x.toInteger? = some i) :
    toI64Filter mode (.sc x) [] = .ok (intV i) := by
  simp only [toI64Filter, V.asScalar?, hi]

theorem toI64Filter_float {mode : Int → Int} {x : Sc} {b : Nat} (hni : x.toInteger? = none)
    (hx : x.toFloatBits? = some b) : toI64Filter mode (.sc x) [] = .ok (intV (fToI64 mode b)) := by
  simp only [toI64Filter, V.asScalar?, hni, hx]

/-- `round` to no decimal places is `floor` / `ceil` with the third rounding mode. -/
theorem roundGo_nonpos (ops : FloatOps) (v : V) {n : Int} (hn : n ≤ 0) :
    roundGo ops v n = toI64Filter roundQ v [] := by
  unfold roundGo toI64Filter
  cases v.asScalar? with
  | none => rfl
  | some x =>
    cases hi : x.toInteger? with
    | none => simp only [hi, hn, Option.isSome_none, Bool.false_eq_true, and_false, if_false, if_true]
    | some i => simp only [hi, hn, Option.isSome_some, and_self, if_true, Option.getD_some]

/-! ### the integer path of `divided_by` and `modulo` -/

theorem tdiv_inI64 (a b : Int) (ha : inI64 a = true) (h : ¬(a = i64Min ∧ b = -1)) (hb : b ≠ 0) :
    inI64 (a.tdiv b) = true := by
  rw [inI64_iff] at *
  unfold i64Min i64Max at *
  by_cases hm : a = -9223372036854775808
  · -- `MIN / 1 = MIN`; otherwise `|b| ≥ 2` and `|MIN / b| ≤ 2^62`
    subst hm
    by_cases hb2 : b = 1
    · subst hb2
      simp
    · have hb1 : b ≠ -1 := fun e => h ⟨rfl, e⟩
      have h2 : ((-9223372036854775808 : Int).tdiv b).natAbs = 9223372036854775808 / b.natAbs := by
        rw [Int.natAbs_tdiv]
        rfl
      have h3 : 9223372036854775808 / b.natAbs ≤ 9223372036854775808 / 2 :=
        Nat.div_le_div_left (by omega) (by decide)
      omega
  · have := Int.natAbs_tdiv_le_natAbs a b
    omega

theorem tmod_inI64 (a b : Int) (ha : inI64 a = true) : inI64 (a.tmod b) = true := by
  rw [inI64_iff] at *
  have h1 : (a.tmod b).natAbs ≤ a.natAbs := by
    rw [Int.natAbs_tmod]; exact Nat.mod_le _ _
  unfold i64Min i64Max at *
  by_cases h0 : 0 ≤ a
  · omega
  · have h2 : 0 ≤ (-a).tmod b := Int.tmod_nonneg b (by omega)
    rw [Int.neg_tmod] at h2
    omega

theorem tmod_natAbs_lt (a b : Int) (hb : b ≠ 0) : (a.tmod b).natAbs < b.natAbs := by
  rw [Int.natAbs_tmod]
  exact Nat.mod_lt _ (by omega)

/-- `wrapping_rem` singles out `MIN % -1` only because the hardware instruction traps on it: the
remainder is `0` there too. -/
theorem arithNew_modulo {a b : Int} (hb : b ≠ 0) : arithNew .modulo a b = .ok (some (a.tmod b)) := by
  simp only [arithNew, wrappingRem, if_neg hb]
  split
  next h =>
    rw [h.1, h.2]
    rfl
  next => rfl

theorem arithNew_dividedBy {a b : Int} (hb : b ≠ 0) (h : ¬(a = i64Min ∧ b = -1)) :
    arithNew .dividedBy a b = .ok (some (a.tdiv b)) := by
  simp only [arithNew, checkedDiv, hb, h, or_self, if_false]

/-! ### decimal strings as doubles -/

theorem parseDecimal_digits (ds : Str) (hne : ds ≠ []) (hd : ∀ c ∈ ds, c.isDigit = true) :
    parseDecimal ds = some (Nat.ofDigitChars 10 ds 0, 0) := by
  have h1 := List.takeWhile_append_of_pos (p := Char.isDigit) (l₂ := []) hd
  have h2 := List.dropWhile_append_of_pos (p := Char.isDigit) (l₂ := []) hd
  rw [List.append_nil] at h1 h2
  have h3 : ds.length ≠ 0 := by simpa using hne
  unfold parseDecimal
  simp only [h1, h2, List.takeWhile_nil, List.dropWhile_nil, List.append_nil]
  simp [h3, digitsNat, Nat.ofDigitChars]

theorem decToBits_zero_exp (m : Nat) : decToBits m 0 = roundRatBits m 1 := by
  unfold decToBits
  by_cases hm : m = 0
  · subst hm; simp [roundRatBits]
  · have : ¬ (400 + (bitLen m : Int) < 0) := by omega
    simp [hm, this]

theorem parseF64_digits (ds : Str) (hne : ds ≠ []) (hd : ∀ c ∈ ds, c.isDigit = true) :
    parseF64 ds = some (roundRatBits (Nat.ofDigitChars 10 ds 0) 1) ∧
    parseF64 ('-' :: ds) = some (f64Sign + roundRatBits (Nat.ofDigitChars 10 ds 0) 1) := by
  have hp := parseDecimal_digits ds hne hd
  constructor
  · obtain ⟨c, r, rfl, h1, h2⟩ := digits_head hne hd
    simp [parseF64, h1, h2, hp, decToBits_zero_exp]
  · simp [parseF64, hp, decToBits_zero_exp, hne]

theorem parseF64_intRepr (n : Int) : parseF64 (intRepr n) = some (f64OfInt n) := by
  have h := parseF64_digits _ (natDigits_ne_nil n.natAbs) (natDigits_isDigit n.natAbs)
  rw [ofDigitChars_natDigits] at h
  unfold intRepr f64OfInt
  split
  · exact h.2
  · rw [h.1, Nat.zero_add]

/-! ### floor / ceil / round on `q / U` -/

theorem floor_spec (q U : Int) (hU : 0 < U) : (q / U) * U ≤ q ∧ q < (q / U + 1) * U :=
  ⟨Int.ediv_mul_le q (by omega), Int.lt_ediv_add_one_mul_self q hU⟩

theorem ceil_spec (q U : Int) (hU : 0 < U) : (-((-q) / U) - 1) * U < q ∧ q ≤ (-((-q) / U)) * U := by
  have h := floor_spec (-q) U hU
  simp only [Int.add_mul, Int.sub_mul, Int.neg_mul, Int.one_mul] at *
  omega

/-- `(2q + U) / 2U` is nearest to `q / U`, the upper one on a tie. -/
theorem round_spec (q U : Int) (hU : 0 < U) :
    -U ≤ 2 * (q - (2 * q + U) / (2 * U) * U) ∧ 2 * (q - (2 * q + U) / (2 * U) * U) < U := by
  have h := floor_spec (2 * q + U) (2 * U) (by omega)
  generalize (2 * q + U) / (2 * U) = r at h ⊢
  rw [Int.add_mul, Int.mul_left_comm] at h
  omega

theorem fUnit_pos : 0 < fUnit := by unfold fUnit; exact Int.pow_pos (by decide)

theorem satI64_of_in (x : Int) (h1 : i64Min ≤ x) (h2 : x ≤ i64Max) : satI64 x = x := by
  unfold satI64
  rw [if_neg (by omega), if_neg (by omega)]

theorem between_of_near {q r U lo hi : Int} (hU : 0 < U) (hlo : lo * U ≤ q) (hhi : q ≤ hi * U)
    (h1 : (r - 1) * U < q) (h2 : q < (r + 1) * U) : lo ≤ r ∧ r ≤ hi := by
  have := Int.lt_of_mul_lt_mul_right (Int.lt_of_lt_of_le h1 hhi) (Int.le_of_lt hU)
  have := Int.lt_of_mul_lt_mul_right (Int.lt_of_le_of_lt hlo h2) (Int.le_of_lt hU)
  omega

theorem fToI64_fin {mode : Int → Int} {b : Nat} {q : Int} (hq : fv b = .fin q)
    (h : i64Min ≤ mode q ∧ mode q ≤ i64Max) : fToI64 mode b = mode q := by
  unfold fToI64
  rw [hq]
  exact satI64_of_in _ h.1 h.2

/-- floor, ceil and round at once: a float operand within the 64-bit range, any rounding mode that
stays less than one unit away. -/
theorem toI64Filter_near {mode : Int → Int} {x : Sc} {b : Nat} {q : Int} (hni : x.toInteger? = none)
    (hx : x.toFloatBits? = some b) (hq : fv b = .fin q)
    (hlo : i64Min * fUnit ≤ q) (hhi : q ≤ i64Max * fUnit)
    (h1 : (mode q - 1) * fUnit < q) (h2 : q < (mode q + 1) * fUnit) :
    toI64Filter mode (.sc x) [] = .ok (intV (mode q)) := by
  rw [toI64Filter_float hni hx, fToI64_fin hq (between_of_near fUnit_pos hlo hhi h1 h2)]

/-- nearest, and away from zero on a tie -/
theorem roundQ_spec (q : Int) :
    -fUnit ≤ 2 * (q - roundQ q * fUnit) ∧ 2 * (q - roundQ q * fUnit) ≤ fUnit ∧
    (2 * (q - roundQ q * fUnit) = fUnit → q < 0) ∧ (2 * (q - roundQ q * fUnit) = -fUnit → 0 ≤ q) := by
  unfold roundQ
  split
  · have := round_spec q fUnit fUnit_pos
    omega
  · have := round_spec (-q) fUnit fUnit_pos
    rw [Int.neg_mul]
    omega

/-! ### float order

`fLt` is decided on the pair of exact values: `compare` of the two integers where both are finite,
a fixed table where one is NaN or infinite. -/

theorem fLt_irrefl (a : Nat) : fLt a a = false := by
  unfold fLt
  cases fv a
  case fin q =>
    show (some (compare q q) == some .lt) = false
    rw [Int.compare_eq_eq.mpr rfl]
    rfl
  all_goals rfl

theorem fLt_asymm (a b : Nat) : fLt a b = true → fLt b a = false := by
  unfold fLt
  cases fv a <;> cases fv b
  case fin.fin qa qb =>
    show (some (compare qa qb) == some .lt) = true → (some (compare qb qa) == some .lt) = false
    simp only [beq_iff_eq, Option.some.injEq, beq_eq_false_iff_ne, ne_eq]
    exact Std.OrientedCmp.not_lt_of_lt
  -- the table: each entry gives the conclusion or refutes the premise, by evaluation
  all_goals first | exact fun _ => rfl | exact nofun

/-- `fMax` is this choice with `fLt`, `fMin` with its converse. -/
theorem pick_not_lt {lt : Nat → Nat → Bool} (irr : ∀ a, lt a a = false)
    (asym : ∀ a b, lt a b = true → lt b a = false) (a b : Nat) :
    ((if lt a b then b else a) = a ∨ (if lt a b then b else a) = b) ∧
    lt (if lt a b then b else a) a = false ∧ lt (if lt a b then b else a) b = false := by
  cases h : lt a b
  · exact ⟨.inl rfl, irr a, h⟩
  · exact ⟨.inr rfl, asym a b h, irr b⟩

/-! ### no panic, per shape of filter

Every leaf of these functions is `.ok _` or `.err`, except where the result of the integer
arithmetic is passed on: the only panic site of the repaired arithmetic is `wrapping_rem` by zero,
and the zero-divisor guard comes first.  The `split`s follow the `match` / `if` nesting of each
definition, outermost first, in the order of its arms. -/

theorem arithNew_no_panic (op : MathOp) (a b : Int) (h : op = .modulo → b ≠ 0) :
    (arithNew op a b).isPanic = false := by
  cases op
  case modulo =>
    rw [arithNew_modulo (h rfl)]
    rfl
  all_goals rfl

theorem floatPath_no_panic (ops : FloatOps) (op : MathOp) (x y : Sc) :
    (floatPath ops op x y).isPanic = false := by
  rcases floatPath_cases ops op x y with h | ⟨f, h⟩ <;> rw [h] <;> rfl

theorem binScalars_no_panic (ops : FloatOps) (op : MathOp) (x y : Sc) :
    (binScalars .new ops op x y).isPanic = false := by
  have hfp := floatPath_no_panic ops op x y
  unfold binScalars
  split
  · rfl
  next hg =>
    -- `hg`: not a division by zero
    split
    next a b _ hy =>
      -- two integers; by the outcome of `arithNew op a b`
      have hb : op = .modulo → b ≠ 0 := by
        rintro rfl rfl
        rw [zeroGuard_int hy] at hg
        exact hg rfl
      have := arithNew_no_panic op a b hb
      simp only [IntArith.new]
      split
      · rfl                       -- an integer result
      · exact hfp                 -- the checked operation gave `None`: the float path
      next h => rwa [h] at this   -- a panic: excluded by `this`
      · rfl                       -- an error
    · exact hfp

theorem binFilter_no_panic (ops : FloatOps) (op : MathOp) (input : V) (args : List V) :
    (binFilter .new ops op input args).isPanic = false := by
  unfold binFilter
  split
  · split
    · exact binScalars_no_panic ops op _ _
    · rfl
  · rfl

theorem absFilter_no_panic (input : V) (args : List V) : (absFilter .new input args).isPanic = false := by
  unfold absFilter
  split
  · split
    next x _ =>
      unfold absScalar
      simp only [IntArith.new, absNew]
      cases x.toInteger? with
      | none => cases x.toFloatBits? <;> rfl
      | some a =>
        dsimp only
        cases checkedAbs a <;> cases x.toFloatBits? <;> rfl
    · rfl
  · rfl

theorem toI64Filter_no_panic (mode : Int → Int) (input : V) (args : List V) :
    (toI64Filter mode input args).isPanic = false := by
  unfold toI64Filter
  split
  · split
    · split
      · rfl
      · split <;> rfl
    · rfl
  · rfl

theorem roundGo_no_panic (ops : FloatOps) (input : V) (n : Int) : (roundGo ops input n).isPanic = false := by
  unfold roundGo
  split
  · split
    · rfl
    · split
      · split
        · rfl
        · split <;> rfl
      · rfl
  · rfl

theorem roundFilter_no_panic (ops : FloatOps) (input : V) (args : List V) :
    (roundFilter ops input args).isPanic = false := by
  unfold roundFilter
  split
  · exact roundGo_no_panic ops input 0
  · split
    · split
      · exact roundGo_no_panic ops input _
      · rfl
    · rfl
  · rfl

/-! ### doubles below 2^63 are at most 2^63 − 1024 -/

theorem fv_fin_natAbs (b : Nat) (q : Int) (hq : fv b = .fin q) :
    ∃ M k : Nat, M < 2^53 ∧ (k = 0 ∨ 2^52 ≤ M) ∧ q.natAbs = M * 2^k := by
  have hm : Fl.mant { bits := b } < 2^52 := Nat.mod_lt _ (by decide)
  simp only [fv, Fl.toFV] at hq
  split at hq
  · split at hq
    · cases hq
    · split at hq <;> cases hq
  · injection hq with hq
    subst hq
    have hn : ∀ (s : Bool) (n : Nat), (if s then -Int.ofNat n else Int.ofNat n).natAbs = n := by
      intro s n
      cases s <;> simp
    rw [hn]
    split
    · exact ⟨_, 0, by omega, .inl rfl, (Nat.mul_one _).symm⟩
    · exact ⟨_, _, by omega, .inr (Nat.le_add_right ..), rfl⟩

theorem mag_bound {M k : Nat} (hM : M < 2^53) (hk : k = 0 ∨ 2^52 ≤ M)
    (h : M * 2^k < 2^63 * 2^1074) : M * 2^k ≤ (2^63 - 1024) * 2^1074 := by
  have hk' : k ≤ 1084 := by
    refine Nat.le_of_not_lt fun hc => ?_
    have h1 : 2^1085 ≤ 2^k := Nat.pow_le_pow_right (by decide) hc
    have h2 : 2^52 * 2^1085 ≤ M * 2^k := Nat.mul_le_mul (hk.resolve_left (by omega)) h1
    omega
  have h1 : 2^k ≤ 2^1084 := Nat.pow_le_pow_right (by decide) hk'
  have h2 : M * 2^k ≤ (2^53 - 1) * 2^1084 := Nat.mul_le_mul (by omega) h1
  -- the largest mantissa at the largest exponent that stays below: `(2^53 − 1) · 2^10 = 2^63 − 1024`
  omega

theorem fin_le_i64Max (b : Nat) (q : Int) (hq : fv b = .fin q) (h : q < 2^63 * fUnit) :
    q ≤ i64Max * fUnit := by
  obtain ⟨M, k, hM, hk, hmag⟩ := fv_fin_natAbs b q hq
  unfold fUnit i64Max at *
  by_cases h0 : q < 0
  · omega
  · have := mag_bound hM hk (by omega)
    omega

end Liquid.C15
