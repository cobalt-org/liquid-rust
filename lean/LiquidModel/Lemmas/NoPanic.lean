/-
  C02 core: rendering a well-formed template never reaches a panic site of the interpreter (other
  than the two counter-overflow sites, which need 2^63 increments), provided the filters and the
  partial store do not panic.  An instance of the interpreter walk (`MRel.renderN_succ`) in which only
  safe results may be lifted.
-/
import LiquidModel.Lemmas.Shape
namespace Liquid

/-! ### well-formedness the parser guarantees: a `cycle` tag has at least one value -/

mutual
def wfN : Node → Bool
  | .cycle _ vals => !vals.isEmpty
  | .capture _ b => wfL b
  | .cond _ _ t e => wfL t && wfO e
  | .case_ _ arms e => wfA arms && wfO e
  | .for_ _ _ _ _ _ b e => wfL b && wfO e
  | .tablerow _ _ _ _ _ b => wfL b
  | .ifchanged b => wfL b
  | _ => true
def wfL : List Node → Bool
  | [] => true
  | n :: r => wfN n && wfL r
def wfO : Option (List Node) → Bool
  | none => true
  | some t => wfL t
def wfA : List (List Expr × List Node) → Bool
  | [] => true
  | (_, b) :: r => wfL b && wfA r
end

theorem wfL_eq_all : ∀ t : List Node, wfL t = t.all wfN
  | [] => rfl
  | n :: r => by rw [wfL, List.all_cons, wfL_eq_all r]

theorem wfA_eq_all : ∀ arms : List (List Expr × List Node), wfA arms = (arms.map (·.2)).all wfL
  | [] => rfl
  | (_, b) :: r => by rw [wfA, List.map_cons, List.all_cons, wfA_eq_all r]

theorem wfO_eq_all (e : Option (List Node)) : wfO e = e.toList.all wfL := by
  cases e <;> simp [wfO]

theorem wfN_of_wfL (t : List Node) (h : wfL t = true) : ∀ n ∈ t, wfN n = true :=
  List.all_eq_true.mp (wfL_eq_all t ▸ h)

theorem wfL_bodies (n : Node) (h : wfN n = true) : ∀ t ∈ n.bodies, wfL t = true := by
  refine List.all_eq_true.mp ?_
  -- goes through the node kinds by the equations of `wfN` and `Node.bodies`: extend when `Node` grows
  cases n <;> simp only [wfN, Bool.and_eq_true, wfA_eq_all, wfO_eq_all] at h <;> simp [Node.bodies, h]

/-! ### which panics are tolerated, and safety of pure results -/

def Res.safe {α} : Res α → Bool
  | .panic s => okPanic s
  | _ => true

theorem Res.safe_of_not_panic {α} (r : Res α) (h : r.isPanic = false) : r.safe = true := by
  cases r <;> simp_all [Res.safe, Res.isPanic]

theorem evalIdx_not_panic (st : Stack) : ∀ es : List Expr, (evalIdx st es).isPanic = false :=
  fun es => Res.not_panic_of_plain (evalIdx_plain st es)

def FiltersSafe (env : Env) : Prop := ∀ name f, env.filters name = some f → ∀ v args, (f v args).isPanic = false

theorem evalChain_safe (env : Env) (hf : FiltersSafe env) (st : Stack) (e : Expr) (fs : List FCall) :
    (evalChain env st e fs).safe = true := by
  refine Res.safe_of_not_panic _ ?_
  rcases evalChain_cases env st e fs with h | ⟨name, f, v, args, hn, h⟩
  · exact Res.not_panic_of_plain h
  · rw [h]; exact hf name f hn v args

/-! ### the render monad: safe computations -/

def Layer.isGlobal : Layer → Bool | .global _ => true | _ => false
def Layer.isIndex : Layer → Bool | .index _ => true | _ => false
/-- has a Global and an Index (counter) frame, as every runtime that `RuntimeBuilder::build` makes -/
def hasGI (st : Stack) : Bool := st.any Layer.isGlobal && st.any Layer.isIndex

theorem hasGI_of_shape (a b : Stack) (h : b.shape = a.shape) : hasGI b = hasGI a := by
  have hg : ∀ l : Layer, l.isGlobal = (l.kind == 2) := fun l => by cases l <;> rfl
  have hi : ∀ l : Layer, l.isIndex = (l.kind == 3) := fun l => by cases l <;> rfl
  simp only [hasGI, Stack.any_kind (g := (· == 2)) hg, Stack.any_kind (g := (· == 3)) hi, h]

theorem setGlobal_ok_of_isGlobal (st : Stack) (k : Str) (v : V) (h : st.any Layer.isGlobal = true) :
    ∃ st', st.setGlobal k v = .ok st' := by
  rcases Stack.setGlobal_cases st k v with ⟨a, g, b, _, _, hr⟩ | ⟨hn, _⟩
  · exact ⟨_, hr⟩
  · obtain ⟨l, h1, h2⟩ := exists_of_any_all h hn
    cases l <;> first | exact Bool.noConfusion h1 | exact Bool.noConfusion h2

theorem setIndex_ok_of_isIndex (st : Stack) (k : Str) (v : V) (h : st.any Layer.isIndex = true) :
    ∃ st', st.setIndex k v = .ok st' := by
  rcases Stack.setIndex_cases st k v with ⟨a, c, b, _, _, hr⟩ | ⟨hn, _⟩
  · exact ⟨_, hr⟩
  · obtain ⟨l, h1, h2⟩ := exists_of_any_all h hn
    cases l <;> first | exact Bool.noConfusion h1 | exact Bool.noConfusion h2

/-- Safe and shape-Preserving: `m` keeps the frames balanced and, started with a global and a counter
frame, ends in no panic but a tolerated one.  The first half is what carries `hasGI` across a `bind`. -/
def SP {α} (m : M α) : Prop :=
  Pres shapeRel m ∧ ∀ rt w, hasGI rt.layers = true → (m rt w).1.safe = true

namespace SP

theorem pure {α} (a : α) : SP (Pure.pure a : M α) := ⟨shapeRel.toMProp.pure a, fun _ _ _ => rfl⟩
theorem lift {α} (r : Res α) (h : r.safe = true) : SP (M.lift r) := ⟨shapeRel.toMProp.lift r, fun _ _ _ => h⟩
theorem getSt : SP M.getSt := ⟨shapeRel.toMProp.getSt, fun _ _ _ => rfl⟩
theorem getRegs : SP M.getRegs := ⟨shapeRel.toMProp.getRegs, fun _ _ _ => rfl⟩
theorem setRegs (g : Regs) : SP (M.setRegs g) := ⟨shapeRel.toMProp.setRegs g, fun _ _ _ => rfl⟩
theorem emit (s : Str) : SP (M.emit s) :=
  ⟨shapeRel.toMProp.emit s, fun rt w _ => by unfold M.emit; cases w.write s <;> rfl⟩

theorem bind {α β} {m : M α} {f : α → M β} (hm : SP m) (hf : ∀ a, SP (f a)) : SP (m >>= f) := by
  refine ⟨shapeRel.toMProp.bind hm.1 (fun a => (hf a).1), ?_⟩
  intro rt w hgi
  have h1 := hm.2 rt w hgi
  have hs := hm.1 rt w
  rw [M.run_bind]
  rcases hr : m rt w with ⟨r, rt', w'⟩
  rw [hr] at h1 hs
  cases r with
  | ok a => exact (hf a).2 rt' w' (by rw [hasGI_of_shape _ _ hs]; exact hgi)
  | panic s => exact h1
  | _ => rfl

theorem setGlobalM (x : Str) (v : V) : SP (setGlobalM x v) := by
  refine ⟨shapeRel.toMProp.setGlobalM x v, ?_⟩
  intro rt w hgi
  have hg : rt.layers.any Layer.isGlobal = true := by
    unfold hasGI at hgi; rw [Bool.and_eq_true] at hgi; exact hgi.1
  obtain ⟨st', hs⟩ := setGlobal_ok_of_isGlobal rt.layers x v hg
  simp [Liquid.setGlobalM, M.run_bind, hs, Res.safe]

theorem setIndexM (x : Str) (v : V) : SP (setIndexM x v) := by
  refine ⟨shapeRel.toMProp.setIndexM x v, ?_⟩
  intro rt w hgi
  have hg : rt.layers.any Layer.isIndex = true := by
    unfold hasGI at hgi; rw [Bool.and_eq_true] at hgi; exact hgi.2
  obtain ⟨st', hs⟩ := setIndex_ok_of_isIndex rt.layers x v hg
  simp [Liquid.setIndexM, M.run_bind, hs, Res.safe]

theorem capture {m : M Unit} (hm : SP m) : SP (M.capture m) := by
  refine ⟨shapeRel.toMProp.capture hm.1, ?_⟩
  intro rt w hgi
  have h := hm.2 rt {} hgi
  unfold M.capture
  rcases hr : m rt {} with ⟨r, rt', cw⟩
  cases r <;> simp_all [Res.safe, M.castErr]

/-- `hsh` is asked of the caller: `shapeRel`, a `StepRel`, knows the two pushes of the interpreter and
not an arbitrary `ls` -/
theorem inFrames {α} (ls : List Layer) {m : M α} (hsh : Pres shapeRel (M.inFrames ls m)) (hm : SP m) :
    SP (M.inFrames ls m) := by
  refine ⟨hsh, fun rt w hgi => hm.2 { rt with layers := ls ++ rt.layers } w ?_⟩
  simp only [hasGI, List.any_append, Bool.and_eq_true, Bool.or_eq_true] at hgi ⊢
  exact ⟨.inr hgi.1, .inr hgi.2⟩

end SP

def LookupSafe (env : Env) : Prop :=
  ∀ name, (env.lookup name).isPanic = false ∧ ∀ t, env.lookup name = .ok t → wfL t = true

def spRel : MRel where
  R := fun m _ => SP m
  S := Eq
  G := fun r => r.safe = true
  view := fun h => h ▸ NI.SameView.refl _
  plain := fun h => Res.safe_of_not_panic _ (Res.not_panic_of_plain h)
  cast := fun {_ _ r} h => by cases r <;> exact h
  pure := SP.pure
  bind := fun hm hk => SP.bind hm hk
  getSt := fun hk => SP.bind SP.getSt fun s => hk s s rfl
  lift := fun hg => SP.lift _ hg
  emit := SP.emit
  getRegs := SP.getRegs
  setRegs := SP.setRegs
  setGlobalM := SP.setGlobalM
  setIndexM := SP.setIndexM
  capture := fun h => SP.capture h
  inPlain := fun d _ _ h => SP.inFrames _ (shapeRel.toMProp.inPlain d h.1) h
  inSandbox := fun root _ _ h => SP.inFrames _ (shapeRel.toMProp.inSandbox root h.1) h

/-- **No panic site is reachable** when rendering a well-formed element in a runtime that has a
global and a counter frame (every runtime `RuntimeBuilder::build` makes), given filters and a
partial store that do not panic — except the two counter-overflow sites. -/
theorem renderN_sp (env : Env) (hf : FiltersSafe env) (hl : LookupSafe env) :
    ∀ fuel n, wfN n = true → SP (renderN fuel env n)
  | 0, n, _ => by rw [renderN_zero]; exact SP.lift _ rfl
  | fuel + 1, n, hwf =>
    have body : ∀ t, wfL t = true → SP (renderT fuel env t) := fun t ht =>
      spRel.renderT env fuel fuel t fun m hm =>
        renderN_sp env hf hl fuel m (wfN_of_wfL t ht m hm)
    spRel.renderN_succ env fuel fuel (evalChain_safe env hf) (fun _ h => h) n
      (fun t ht => body t (wfL_bodies n hwf t ht))
      (fun _ h => by rw [h] at hwf; cases hwf)
      (fun _ name => ⟨Res.safe_of_not_panic _ (hl name).1, fun t ht => body t ((hl name).2 t ht)⟩)

theorem renderT_sp (env : Env) (hf : FiltersSafe env) (hl : LookupSafe env) (fuel : Nat) (t : Tmpl)
    (hwf : wfL t = true) : SP (renderT fuel env t) :=
  spRel.renderT env fuel fuel t fun n hn => renderN_sp env hf hl fuel n (wfN_of_wfL t hwf n hn)

end Liquid
