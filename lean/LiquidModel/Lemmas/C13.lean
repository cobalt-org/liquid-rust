/-
  Lemmas about the string filters of `Model/StrFilters.lean`.  Trimming is `dropWhile` and its mirror
  image.  The searcher behind `split` and `replace` is used only through its three equations
  (`strSplit_nil/_hit/_miss`) and the induction that follows them (`scan_induction`, with fuel for the
  reference scanners).  `canonicalize_slice` is characterised on integers (`canonSlice_ok`) and then
  on a list (`canonSlice_list`).  Last, the reference functions of `Spec/C13.lean` compute the
  model's functions.
-/
import LiquidModel.Model.StrFilters
import LiquidModel.Spec.C13
import LiquidModel.Lemmas.Digits
namespace Liquid.StrF

/-! ### trim -/

theorem trimStart_eq_dropWhile (s : Str) : trimStart s = s.dropWhile isUniWs := by
  induction s with
  | nil => rfl
  | cons c r ih => rw [trimStart, ih, List.dropWhile_cons]

theorem trimEnd_cons (c : Char) (r : Str) :
    trimEnd (c :: r) = if trimEnd r = [] then (if isUniWs c then [] else [c]) else c :: trimEnd r := by
  cases hr : trimEnd r <;> simp [trimEnd, hr]

theorem trimEnd_eq_reverse (s : Str) : trimEnd s = (trimStart s.reverse).reverse := by
  induction s with
  | nil => rfl
  | cons c r ih =>
    rw [trimEnd_cons, ih, trimStart_eq_dropWhile, trimStart_eq_dropWhile, List.reverse_cons, List.dropWhile_append]
    cases h : List.dropWhile isUniWs r.reverse with
    | nil => cases hc : isUniWs c <;> simp [hc]
    | cons d t => simp

theorem trimStart_append_ws (s : Str) : ∃ a, s = a ++ trimStart s ∧ a.all isUniWs = true :=
  ⟨s.takeWhile isUniWs, by rw [trimStart_eq_dropWhile, List.takeWhile_append_dropWhile], List.all_takeWhile⟩

theorem trimStart_head_not_ws (s : Str) (c : Char) (h : (trimStart s).head? = some c) : isUniWs c = false := by
  have := List.head?_dropWhile_not isUniWs s
  rwa [← trimStart_eq_dropWhile, h] at this

theorem trimStart_eq_nil_of_all_ws (s : Str) (h : s.all isUniWs = true) : trimStart s = [] := by
  have := List.dropWhile_append_of_pos (l₂ := []) (List.all_eq_true.mp h)
  rwa [List.append_nil, ← trimStart_eq_dropWhile] at this

theorem trimEnd_append_ws (s : Str) : ∃ b, s = trimEnd s ++ b ∧ b.all isUniWs = true := by
  obtain ⟨a, h, hw⟩ := trimStart_append_ws s.reverse
  exact ⟨a.reverse, by rw [trimEnd_eq_reverse, ← List.reverse_append, ← h, List.reverse_reverse], by rwa [List.all_reverse]⟩

theorem trimEnd_getLast_not_ws (s : Str) (c : Char) (h : (trimEnd s).getLast? = some c) : isUniWs c = false := by
  rw [trimEnd_eq_reverse, List.getLast?_reverse] at h
  exact trimStart_head_not_ws _ c h

theorem trimEnd_eq_nil_of_all_ws (s : Str) (h : s.all isUniWs = true) : trimEnd s = [] := by
  rw [trimEnd_eq_reverse, trimStart_eq_nil_of_all_ws _ (by rwa [List.all_reverse])]; rfl

theorem trimEnd_trimStart_comm (s : Str) : trimEnd (trimStart s) = trimStart (trimEnd s) := by
  induction s with
  | nil => rfl
  | cons c r ih =>
    rw [trimEnd_cons c r]
    by_cases hc : isUniWs c = true
    · have hws : ∀ t, trimStart (c :: t) = trimStart t := fun t => by rw [trimStart, if_pos hc]
      rw [hws, ih, if_pos hc]
      split
      · next h => rw [h]
      · rw [hws]
    · have hnws : ∀ t, trimStart (c :: t) = c :: t := fun t => by rw [trimStart, if_neg hc]
      rw [hnws, trimEnd_cons, if_neg hc]
      split <;> exact (hnws _).symm

/-! ### join / split -/

theorem joinWith_cons_of_ne_nil (sep x : Str) {xs : List Str} (h : xs ≠ []) :
    joinWith sep (x :: xs) = x ++ sep ++ joinWith sep xs := by
  cases xs with
  | nil => exact absurd rfl h
  | cons y r => rfl

theorem joinWith_append_head (sep a p : Str) (ps : List Str) :
    joinWith sep ((a ++ p) :: ps) = a ++ joinWith sep (p :: ps) := by
  cases ps with
  | nil => rfl
  | cons y r => simp [joinWith]

theorem joinWith_push_char (sep : Str) (c : Char) (p : Str) (ps : List Str) :
    joinWith sep ((c :: p) :: ps) = c :: joinWith sep (p :: ps) := joinWith_append_head sep [c] p ps

theorem joinWith_head_prefix (sep p : Str) (ps : List Str) : p <+: joinWith sep (p :: ps) :=
  ⟨joinWith sep ([] :: ps), by rw [← joinWith_append_head, List.append_nil]⟩

theorem splitK_ne_nil (pat : Str) (k : Nat) (s : Str) : splitK pat k s ≠ [] := by
  -- `case2` is the second equation of `splitK`, which skips a character of the match just found;
  -- every other branch returns a `cons`
  fun_induction splitK pat k s with
  | case2 _ _ _ ih => exact ih
  | _ => exact List.cons_ne_nil _ _

theorem splitK_drop (pat : Str) (k : Nat) (s : Str) : splitK pat k s = splitK pat 0 (s.drop k) := by
  induction s generalizing k with
  | nil => simp [splitK]
  | cons c r ih =>
    cases k with
    | zero => rfl
    | succ k => simpa [splitK] using ih k

theorem strSplit_of_ne_nil {pat : Str} (hp : pat ≠ []) (s : Str) : strSplit pat s = splitK pat 0 s := by
  rw [strSplit, if_neg (by simpa using hp)]

theorem strSplit_ne_nil (pat s : Str) : strSplit pat s ≠ [] := by
  unfold strSplit splitEmpty; split
  · simp
  · exact splitK_ne_nil _ _ _

/-! #### the searcher for a non-empty needle -/

section scan
variable {pat : Str} (hp : pat ≠ [])
include hp

theorem strSplit_nil : strSplit pat [] = [[]] := by rw [strSplit_of_ne_nil hp]; rfl

theorem strSplit_hit {s : Str} (h : pat <+: s) : strSplit pat s = [] :: strSplit pat (s.drop pat.length) := by
  obtain ⟨n, hn⟩ := Nat.exists_eq_add_one_of_ne_zero (mt List.length_eq_zero_iff.mp hp)
  cases s with
  | nil => exact absurd (List.prefix_nil.mp h) hp
  | cons c r =>
    rw [strSplit_of_ne_nil hp, strSplit_of_ne_nil hp, splitK, if_pos (List.isPrefixOf_iff_prefix.mpr h), splitK_drop, hn]
    rfl

theorem strSplit_miss {c : Char} {r : Str} (h : ¬ pat <+: c :: r) :
    ∃ p ps, strSplit pat r = p :: ps ∧ strSplit pat (c :: r) = (c :: p) :: ps := by
  rw [strSplit_of_ne_nil hp, strSplit_of_ne_nil hp, splitK, if_neg (mt List.isPrefixOf_iff_prefix.mp h)]
  cases hsp : splitK pat 0 r with
  | nil => exact absurd hsp (splitK_ne_nil pat 0 r)
  | cons p ps => exact ⟨p, ps, rfl, rfl⟩

/-- induction along the way the searcher reads a string: at a hit it continues behind the match,
otherwise one character further.  Here for a scanner that spends one unit of fuel per step, as the
reference scanners do: with more fuel than characters it never runs out. -/
theorem scan_induction_fuel {P : Nat → Str → Prop} (nil : ∀ f, P (f + 1) [])
    (hit : ∀ f c r, pat <+: c :: r → P f ((c :: r).drop pat.length) → P (f + 1) (c :: r))
    (miss : ∀ f c r, ¬ pat <+: c :: r → P f r → P (f + 1) (c :: r)) : ∀ f s, s.length < f → P f s
  | 0, _, hf => absurd hf (Nat.not_lt_zero _)
  | f + 1, [], _ => nil f
  | f + 1, c :: r, hf =>
    if h : pat <+: c :: r then
      -- a hit consumes at least one character
      have hd : ((c :: r).drop pat.length).length < f := by
        have := List.length_pos_iff.mpr hp
        simp only [List.length_drop, List.length_cons] at hf ⊢; omega
      hit f c r h (scan_induction_fuel nil hit miss f _ hd)
    else miss f c r h (scan_induction_fuel nil hit miss f r (Nat.lt_of_succ_lt_succ hf))

theorem scan_induction {P : Str → Prop} (nil : P [])
    (hit : ∀ c r, pat <+: c :: r → P ((c :: r).drop pat.length) → P (c :: r))
    (miss : ∀ c r, ¬ pat <+: c :: r → P r → P (c :: r)) (s : Str) : P s :=
  scan_induction_fuel hp (P := fun _ => P) (fun _ => nil) (fun _ => hit) (fun _ => miss) _ s (Nat.lt_succ_self _)

theorem strReplace_nil (to : Str) : strReplace pat to [] = [] := by
  rw [strReplace, strSplit_nil hp]; rfl

theorem strReplace_hit (to : Str) {s : Str} (h : pat <+: s) :
    strReplace pat to s = to ++ strReplace pat to (s.drop pat.length) := by
  rw [strReplace, strSplit_hit hp h, joinWith_cons_of_ne_nil _ _ (strSplit_ne_nil _ _)]; rfl

theorem strReplace_miss (to : Str) {c : Char} {r : Str} (h : ¬ pat <+: c :: r) :
    strReplace pat to (c :: r) = c :: strReplace pat to r := by
  obtain ⟨p, ps, h1, h2⟩ := strSplit_miss hp h
  rw [strReplace, h2, joinWith_push_char, ← h1]; rfl

theorem joinWith_strSplit_of_ne_nil (s : Str) : joinWith pat (strSplit pat s) = s := by
  induction s using scan_induction hp with
  | nil => rw [strSplit_nil hp]; rfl
  | hit c r h ih =>
    rw [strSplit_hit hp h, joinWith_cons_of_ne_nil _ _ (strSplit_ne_nil _ _), ih]
    exact List.prefix_iff_eq_append.mp h
  | miss c r h ih =>
    obtain ⟨p, ps, h1, h2⟩ := strSplit_miss hp h
    rw [h2, joinWith_push_char, ← h1, ih]

theorem strSplit_pieces_no_pat (s : Str) : ∀ p ∈ strSplit pat s, ¬ pat <:+: p := by
  have hnil : ¬ pat <:+: [] := fun hin => hp (List.infix_nil.mp hin)
  induction s using scan_induction hp with
  | nil => rw [strSplit_nil hp]; exact List.forall_mem_singleton.mpr hnil
  | hit c r h ih => rw [strSplit_hit hp h]; exact List.forall_mem_cons.mpr ⟨hnil, ih⟩
  | miss c r h ih =>
    obtain ⟨p0, ps, h1, h2⟩ := strSplit_miss hp h
    rw [h1] at ih
    rw [h2]
    refine List.forall_mem_cons.mpr ⟨fun hin => ?_, (List.forall_mem_cons.mp ih).2⟩
    rcases List.infix_cons_iff.mp hin with hpre | hin
    · -- the first piece is a prefix of the text it was cut from
      have hp0 : p0 <+: r := by
        have := joinWith_strSplit_of_ne_nil hp r
        rw [h1] at this
        exact this ▸ joinWith_head_prefix _ _ _
      exact h (hpre.trans ((List.prefix_cons_inj c).mpr hp0))
    · exact ih p0 (List.mem_cons_self ..) hin

theorem refReplaceF_eq (to : Str) :
    ∀ f s, s.length < f → C13S.refReplaceF pat to f s = strReplace pat to s := by
  refine scan_induction_fuel hp (fun f => ?_) (fun f c r h ih => ?_) (fun f c r h ih => ?_)
  · rw [strReplace_nil hp]; rfl
  · rw [C13S.refReplaceF, if_pos (List.isPrefixOf_iff_prefix.mpr h), strReplace_hit hp to h, ih]
  · rw [C13S.refReplaceF, if_neg (mt List.isPrefixOf_iff_prefix.mp h), strReplace_miss hp to h, ih]

/-- the accumulator of `refSplitF` is the beginning of the piece under way -/
theorem refSplitF_eq : ∀ f s, s.length < f → ∀ cur,
    ∃ p ps, strSplit pat s = p :: ps ∧ C13S.refSplitF pat f cur s = (cur.reverse ++ p) :: ps := by
  refine scan_induction_fuel hp (fun f cur => ?_) (fun f c r h ih cur => ?_) (fun f c r h ih cur => ?_)
  · exact ⟨[], [], strSplit_nil hp, by simp [C13S.refSplitF]⟩
  · obtain ⟨p, ps, h1, h2⟩ := ih []
    refine ⟨[], _, strSplit_hit hp h, ?_⟩
    rw [C13S.refSplitF, if_pos (List.isPrefixOf_iff_prefix.mpr h), h2, h1]; simp
  · obtain ⟨p, ps, h1, h2⟩ := ih (c :: cur)
    obtain ⟨p', ps', h1', h2'⟩ := strSplit_miss hp h
    rw [h1] at h1'; cases h1'
    refine ⟨_, _, h2', ?_⟩
    rw [C13S.refSplitF, if_neg (mt List.isPrefixOf_iff_prefix.mp h), h2, List.reverse_cons, List.append_assoc]; rfl

end scan

theorem strReplace_empty (to s : Str) : strReplace [] to s = to ++ s.flatMap (fun c => c :: to) := by
  have key : ∀ t : Str, joinWith to (t.map (fun c => [c]) ++ [[]]) = t.flatMap (fun c => c :: to) := by
    intro t
    induction t with
    | nil => rfl
    | cons c r ih =>
      rw [List.map_cons, List.cons_append, joinWith_cons_of_ne_nil _ _ (by simp), ih]
      rfl
  -- the pieces are `[]`, the characters one by one, and `[]`
  exact (joinWith_cons_of_ne_nil _ _ (by simp)).trans (congrArg (to ++ ·) (key s))

theorem splitFirst_cons (pat : Str) (c : Char) (r : Str) :
    splitFirst pat (c :: r) =
      if pat <+: c :: r then some ([], (c :: r).drop pat.length)
      else (splitFirst pat r).map fun ab => (c :: ab.1, ab.2) := by
  rw [splitFirst]
  by_cases h : pat <+: c :: r
  · rw [if_pos h, if_pos (List.isPrefixOf_iff_prefix.mpr h)]
  · rw [if_neg h, if_neg (mt List.isPrefixOf_iff_prefix.mp h)]
    cases splitFirst pat r with
    | none => rfl
    | some ab => rfl

theorem splitFirst_spec (pat s : Str) :
    match splitFirst pat s with
    | some (a, b) => s = a ++ pat ++ b ∧ ∀ a' b', s = a' ++ pat ++ b' → a.length ≤ a'.length
    | none => ¬ pat <:+: s := by
  induction s with
  | nil =>
    by_cases hp : pat = []
    · subst hp; exact ⟨rfl, fun _ _ _ => Nat.zero_le _⟩
    · rw [splitFirst, if_neg (by simpa using hp)]; exact fun hin => hp (List.infix_nil.mp hin)
  | cons c r ih =>
    rw [splitFirst_cons]
    by_cases hp : pat <+: c :: r
    · rw [if_pos hp]; exact ⟨by simpa using (List.prefix_iff_eq_append.mp hp).symm, fun _ _ _ => Nat.zero_le _⟩
    · rw [if_neg hp]
      cases hs : splitFirst pat r with
      | none =>
        rw [hs] at ih
        exact fun hin => (List.infix_cons_iff.mp hin).elim hp ih
      | some ab =>
        rw [hs] at ih
        refine ⟨by rw [ih.1]; simp, fun a' b' e => ?_⟩
        cases a' with
        | nil => exact absurd ⟨b', e.symm⟩ hp
        | cons d a'' =>
          simp only [List.cons_append, List.cons.injEq] at e
          exact Nat.succ_le_succ (ih.2 a'' b' e.2)

/-! ### truncate, segmentations -/

theorem truncStr_some {u : Uni} {n : Nat} {e s r : Str} (h : truncStr u n e s = some r) :
    n < s.length ∧ r = ((u.seg s).take (n - e.length)).flatten ++ e := by
  unfold truncStr at h
  split at h
  · next hlt => exact ⟨hlt, (Option.some.inj h).symm⟩
  · cases h

/-- what a grapheme segmentation is, as far as the theorems need it: a partition of the string
into non-empty pieces -/
def IsSeg (seg : Str → List Str) : Prop :=
  ∀ s, (seg s).flatten = s ∧ ∀ g ∈ seg s, g ≠ []

theorem flatten_length_bounds {α} (k : Nat) (L : List (List α)) :
    ((∀ g ∈ L, k ≤ g.length) → k * L.length ≤ L.flatten.length) ∧
    ((∀ g ∈ L, g.length ≤ k) → L.flatten.length ≤ k * L.length) := by
  induction L with
  | nil => exact ⟨fun _ => Nat.le_refl _, fun _ => Nat.le_refl _⟩
  | cons g gs ih =>
    simp only [List.forall_mem_cons, List.length_cons, List.flatten_cons, List.length_append, Nat.mul_succ]
    exact ⟨fun h => by have := ih.1 h.2; omega, fun h => by have := ih.2 h.2; omega⟩

theorem IsSeg.length_le {seg : Str → List Str} (h : IsSeg seg) (s : Str) : (seg s).length ≤ s.length := by
  have := (flatten_length_bounds 1 (seg s)).1 fun g hg => List.length_pos_iff.mpr ((h s).2 g hg)
  rwa [(h s).1, Nat.one_mul] at this

theorem segSimple_cons (c : Char) (r : Str) :
    segSimple (c :: r) = [c] :: segSimple r ∨
    ∃ g gs, segSimple r = g :: gs ∧ segSimple (c :: r) = (c :: g) :: gs := by
  rw [segSimple]
  split
  · next h => rw [h]; exact .inl rfl
  · next gs h => exact .inr ⟨[], gs, h, rfl⟩
  · next d g gs h =>
    split
    · exact .inr ⟨_, _, h, rfl⟩
    · rw [h]; exact .inl rfl

theorem segSimple_isSeg : IsSeg segSimple := by
  intro s
  induction s with
  | nil => exact ⟨rfl, fun _ h => nomatch h⟩
  | cons c r ih =>
    rcases segSimple_cons c r with h | ⟨g, gs, h1, h2⟩
    · rw [h]; exact ⟨by rw [List.flatten_cons, ih.1]; rfl, List.forall_mem_cons.mpr ⟨List.cons_ne_nil _ _, ih.2⟩⟩
    · rw [h1] at ih
      rw [h2]
      exact ⟨by rw [← ih.1]; rfl, List.forall_mem_cons.mpr ⟨List.cons_ne_nil _ _, (List.forall_mem_cons.mp ih.2).2⟩⟩

theorem lastChar_eq_drop (t : Str) : lastChar t = t.drop (t.length - 1) := by
  unfold lastChar
  induction t with
  | nil => rfl
  | cons c r ih =>
    cases r with
    | nil => rfl
    | cons d r' =>
      rw [List.getLast?_cons_cons, ih]; simp

/-! ### slice -/

theorem toUsize_of_nonneg {i : Int} (h : 0 ≤ i) : toUsize i = i.toNat := if_neg (Int.not_lt.mpr h)

theorem le_toUsize_of_neg {i : Int} {n : Nat} (h : i < 0) (hi : -2^63 ≤ i) (hn : n < 2^63) : n ≤ toUsize i := by
  unfold toUsize; rw [if_pos h]; omega

theorem satAddI64_gt {a b v : Int} (hv : 0 ≤ v) (h : satAddI64 a b > v) : a + b > v := by
  unfold satAddI64 i64Max i64Min at h
  dsimp only at h
  split at h
  · omega
  · split at h <;> omega

theorem canonSlice_ok (off len : Int) (n : Nat) (ho : inI64 off = true) (hl : inI64 len = true)
    (hn : n < 2^63) :
    ∃ o l : Int, canonSlice off len n = .ok (toUsize o, toUsize l) ∧
      o = (if off < 0 then off + n else min off n) ∧ (l = len ∨ (l = n - o ∧ n - o ≤ len)) := by
  rw [inI64_iff] at ho hl
  unfold i64Min i64Max at ho hl
  -- clipping to the length leaves a negative offset as it is and a non-negative one non-negative
  have hm : off < 0 → min off (n : Int) = off := fun h => Int.min_eq_left (by omega)
  have hm' : ¬ off < 0 → ¬ min off (n : Int) < 0 := by omega
  -- so the first overflow check passes
  have hg1 : (min off n < 0 && !inI64 (min off n + n)) = false := by
    by_cases h : off < 0
    · have : inI64 (off + n) = true := by rw [inI64_iff]; unfold i64Min i64Max; omega
      rw [hm h, this]; simp
    · simp [hm' h]
  have ho2 : (if min off (n : Int) < 0 then min off n + n else min off n) = (if off < 0 then off + n else min off n) := by
    by_cases h : off < 0
    · rw [hm h]
    · rw [if_neg h, if_neg (hm' h)]
  have hr : -2^63 ≤ (if off < 0 then off + n else min off n) ∧ (if off < 0 then off + n else min off n) ≤ n := by
    split
    · omega
    · exact ⟨Int.le_min.mpr ⟨by omega, by omega⟩, Int.min_le_right _ _⟩
  unfold canonSlice
  simp only [hg1, Bool.false_eq_true, if_false, ho2]
  -- from here on only the range of the normalised offset matters
  generalize (if off < 0 then off + n else min off n) = o at hr ⊢
  by_cases hs : satAddI64 o len > n
  · have := satAddI64_gt (Int.natCast_nonneg n) hs
    have hg2 : inI64 (n - o) = true := by rw [inI64_iff]; unfold i64Min i64Max; omega
    exact ⟨o, n - o, by simp [hs, hg2], rfl, .inr ⟨rfl, by omega⟩⟩
  · exact ⟨o, len, by simp [hs], rfl, .inl rfl⟩

/-- `slice` written from its documentation: a non-negative offset counts from the front, a
negative one from the end; at most `len` elements; out of range ⇒ empty. -/
def sliceSpec {α} (off len : Int) (s : List α) : List α :=
  if 0 ≤ off then (s.drop off.toNat).take len.toNat
  else if 0 ≤ off + s.length then (s.drop (off + s.length).toNat).take len.toNat
  else []

/-- `h` is what `canonSlice_ok` says of the length it returns -/
theorem take_toUsize {α} (t : List α) {l len k : Int} (hk : t.length = k) (h1 : 0 ≤ len)
    (h : l = len ∨ (l = k ∧ k ≤ len)) : t.take (toUsize l) = t.take len.toNat := by
  subst hk
  rcases h with rfl | ⟨rfl, hle⟩
  · rw [toUsize_of_nonneg h1]
  · rw [toUsize_of_nonneg (Int.natCast_nonneg _), List.take_of_length_le (by omega), List.take_of_length_le (by omega)]

theorem canonSlice_list {α} (s : List α) (off len : Int) (ho : inI64 off = true) (hl : inI64 len = true)
    (h1 : 1 ≤ len) (hn : s.length < 2^63) :
    ∃ o l, canonSlice off len s.length = .ok (o, l) ∧ (s.drop o).take l = sliceSpec off len s := by
  obtain ⟨o, l, hc, rfl, h⟩ := canonSlice_ok off len s.length ho hl hn
  refine ⟨_, _, hc, ?_⟩
  have hlen : 0 ≤ len := by omega
  unfold sliceSpec
  by_cases h0 : 0 ≤ off
  · rw [if_pos h0]
    rw [if_neg (Int.not_lt.mpr h0)] at h ⊢
    rcases Int.le_total off s.length with hle | hle
    · rw [Int.min_eq_left hle] at h ⊢
      rw [toUsize_of_nonneg h0]
      exact take_toUsize _ (by rw [List.length_drop]; omega) hlen h
    · -- an offset beyond the end is cut down to the length: nothing is left either way
      rw [Int.min_eq_right hle, toUsize_of_nonneg (Int.natCast_nonneg _), Int.toNat_natCast, List.drop_length,
        List.drop_of_length_le (by omega), List.take_nil, List.take_nil]
  · rw [if_neg h0]
    rw [if_pos (Int.not_le.mp h0)] at h ⊢
    by_cases h2 : 0 ≤ off + s.length
    · rw [if_pos h2, toUsize_of_nonneg h2]
      exact take_toUsize _ (by rw [List.length_drop]; omega) hlen h
    · -- an offset before the beginning stays negative, and `as usize` sends it beyond the end
      have hlo := ((inI64_iff off).mp ho).1
      unfold i64Min at hlo
      rw [if_neg h2, List.drop_of_length_le (le_toUsize_of_neg (by omega) (by omega) hn), List.take_nil]

theorem sliceSpec_eq_drop_take {α} (off len : Int) (s : List α) :
    ∃ k, sliceSpec off len s = (s.drop k).take len.toNat := by
  unfold sliceSpec
  split
  · exact ⟨_, rfl⟩
  · split
    · exact ⟨_, rfl⟩
    · exact ⟨s.length, by rw [List.drop_length, List.take_nil]⟩

theorem sliceSpec_infix {α} (off len : Int) (s : List α) : sliceSpec off len s <:+: s := by
  obtain ⟨k, h⟩ := sliceSpec_eq_drop_take off len s
  exact h ▸ (List.take_prefix _ _).isInfix.trans (List.drop_suffix _ _).isInfix

theorem sliceSpec_length {α} (off len : Int) (s : List α) : (sliceSpec off len s).length ≤ len.toNat := by
  obtain ⟨k, h⟩ := sliceSpec_eq_drop_take off len s
  exact h ▸ List.length_take_le _ _

/-! ### integer arguments -/

theorem intArg_ok {v : V} {i : Int} (h : StrF.intArg v = .ok i) : v = .sc (.int i) ∨ inI64 i = true := by
  unfold StrF.intArg at h
  split at h
  · next s =>
    split at h
    · next j hj =>
      cases h
      -- `Sc.toInteger?` takes an integer as it is and a string through `parseI64`
      cases s with
      | int k => cases hj; exact .inl rfl
      | str t => exact .inr (parseI64_inI64 hj)
      | _ => cases hj
    · cases h
  · cases h

theorem intArg_not_panic (v : V) : (StrF.intArg v).isPanic = false := by
  fun_cases StrF.intArg v <;> rfl

/-! ### the reference functions of `Spec/C13.lean` -/

theorem refJoin_eq (sep : Str) (xs : List Str) : C13S.refJoin sep xs = joinWith sep xs := by
  cases xs with
  | nil => rfl
  | cons x r =>
    rw [C13S.refJoin]
    induction r generalizing x with
    | nil => rfl
    | cons y r ih =>
      rw [List.foldl_cons, ih, List.append_assoc, joinWith_append_head, joinWith_append_head, ← List.append_assoc]
      rfl

theorem refSlice_eq {α} (off len : Int) (s : List α) : C13S.refSlice off len s = sliceSpec off len s := by
  unfold C13S.refSlice sliceSpec
  dsimp only
  by_cases h : 0 ≤ off
  · rw [if_neg (Int.not_lt.mpr h), if_neg (Int.not_lt.mpr h), if_pos h]
  · rw [if_pos (Int.not_le.mp h), if_neg h, Int.add_comm]
    by_cases h2 : 0 ≤ off + s.length
    · rw [if_neg (Int.not_lt.mpr h2), if_pos h2]
    · rw [if_pos (Int.not_le.mp h2), if_neg h2]

theorem refReplace_eq (pat to s : Str) : C13S.refReplace pat to s = strReplace pat to s := by
  unfold C13S.refReplace
  by_cases hp : pat = []
  · subst hp; simp [strReplace_empty]
  · rw [if_neg (by simpa using hp)]
    exact refReplaceF_eq hp to _ s (Nat.lt_succ_self _)

theorem refSplit_eq (pat s : Str) : C13S.refSplit pat s = strSplit pat s := by
  unfold C13S.refSplit
  by_cases hp : pat = []
  · subst hp; simp [strSplit, splitEmpty]
  · rw [if_neg (by simpa using hp)]
    obtain ⟨p, ps, h1, h2⟩ := refSplitF_eq hp _ s (Nat.lt_succ_self _) []
    rw [h2, h1]; rfl

theorem refFind_eq (pat : Str) (s : Str) : ∀ i0,
    C13S.refFind pat i0 s = (splitFirst pat s).map (fun ab => i0 + ab.1.length) := by
  induction s with
  | nil => intro i0; simp only [C13S.refFind, splitFirst]; split <;> simp
  | cons c r ih =>
    intro i0
    rw [C13S.refFind, splitFirst_cons]
    by_cases h : pat <+: c :: r
    · rw [if_pos (List.isPrefixOf_iff_prefix.mpr h), if_pos h]; rfl
    · rw [if_neg (mt List.isPrefixOf_iff_prefix.mp h), if_neg h, ih]
      cases splitFirst pat r with
      | none => rfl
      | some ab => exact congrArg some (Nat.add_right_comm i0 1 _)

theorem refReplaceFirst_eq (pat to s : Str) : C13S.refReplaceFirst pat to s = replaceFirst pat to s := by
  unfold C13S.refReplaceFirst replaceFirst
  rw [refFind_eq]
  have hs := splitFirst_spec pat s
  cases h : splitFirst pat s with
  | none => rfl
  | some ab =>
    rw [h] at hs
    rw [hs.1]
    simp [List.drop_append]

theorem removeFirst_eq_replaceFirst (pat s : Str) : removeFirst pat s = replaceFirst pat [] s := by
  unfold removeFirst replaceFirst
  cases splitFirst pat s with
  | none => rfl
  | some ab => obtain ⟨a, b⟩ := ab; simp

theorem refWords_eq (s : Str) : C13S.refWords s = strSplit [' '] s := by
  have hp : [' '] ≠ ([] : Str) := List.cons_ne_nil _ _
  induction s with
  | nil => exact (strSplit_nil hp).symm
  | cons c r ih =>
    unfold C13S.refWords at ih ⊢
    rw [List.foldr_cons, ih]
    by_cases hc : c = ' '
    · rw [hc, strSplit_hit hp (s := ' ' :: r) ⟨r, rfl⟩]; rfl
    · obtain ⟨p, ps, h1, h2⟩ := strSplit_miss hp (c := c) (r := r) fun ⟨t, ht⟩ => hc (List.cons.inj ht).1.symm
      rw [h2, h1, if_neg (by simpa using hc)]
end Liquid.StrF
