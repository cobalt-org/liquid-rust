/-
  Scoping invariants of the whole interpreter that hold frame by frame: plain frames (caller data,
  loop variables, include arguments) are never written, and a global frame never loses a name.
-/
import LiquidModel.Lemmas.Shape
namespace Liquid

theorem framewise_replace {L : Layer → Layer → Prop} (refl : ∀ l, L l l) {a b : Stack} {x x' : Layer} (h : L x x')
    (i : Nat) (l : Layer) (hi : (a ++ x :: b)[i]? = some l) : ∃ l', (a ++ x' :: b)[i]? = some l' ∧ L l l' := by
  rcases getElem?_append_cons x' hi with ⟨rfl, h'⟩ | h'
  · exact ⟨x', h', h⟩
  · exact ⟨l, h', refl l⟩

/-- A step relation given frame by frame: frames stay balanced, and `L` relates the frame at each
position before a step to the frame at that position after it.  Each write replaces one frame by a
frame of its own kind (`Stack.setGlobal_ok`, `Stack.setIndex_ok`, `Stack.setRegs_cases`), so `L` only
has to allow these three replacements. -/
def framewise (L : Layer → Layer → Prop) (refl : ∀ l, L l l) (trans : ∀ a b c, L a b → L b c → L a c)
    (global : ∀ g k v, L (.global g) (.global (objInsert g k v)))
    (index : ∀ c k v, L (.index c) (.index (objInsert c k v)))
    (sandbox : ∀ d q q', L (.sandbox d q) (.sandbox d q')) : StepRel where
  R := fun rt rt' => rt'.layers.shape = rt.layers.shape ∧
    ∀ (i : Nat) (l : Layer), rt.layers[i]? = some l → ∃ l', rt'.layers[i]? = some l' ∧ L l l'
  refl := fun _ => ⟨rfl, fun _ l h => ⟨l, h, refl l⟩⟩
  trans := by
    intro a b c ⟨s1, h1⟩ ⟨s2, h2⟩
    refine ⟨s2.trans s1, fun i l h => ?_⟩
    obtain ⟨l1, e1, r1⟩ := h1 i l h
    obtain ⟨l2, e2, r2⟩ := h2 i l1 e1
    exact ⟨l2, e2, trans _ _ _ r1 r2⟩
  setRegs := fun rt q => ⟨Rt.setRegs_shape rt q, by
    unfold Rt.setRegs
    rcases Stack.setRegs_cases rt.layers rt.core q with ⟨a, d, q0, b, _, e, hr⟩ | ⟨_, hr⟩ <;> rw [hr]
    · rw [e]; exact framewise_replace refl (sandbox d q0 q)
    · exact fun _ l h => ⟨l, h, refl l⟩⟩
  setGlobal := fun rt k v ls h => ⟨setGlobal_shape h, by
    obtain ⟨a, g, b, _, e, rfl⟩ := Stack.setGlobal_ok h
    rw [e]; exact framewise_replace refl (global g k v)⟩
  setIndex := fun rt k v ls h => ⟨setIndex_shape h, by
    obtain ⟨a, c, b, _, e, rfl⟩ := Stack.setIndex_ok h
    rw [e]; exact framewise_replace refl (index c k v)⟩
  framePlain := fun d0 rt rt' ⟨hs, hp⟩ => ⟨shapeRel.framePlain d0 rt rt' hs, fun i l hi => by
    rw [List.getElem?_drop, Nat.add_comm]
    exact hp (i + 1) l hi⟩
  frameSandbox := fun root rt rt' ⟨hs, hp⟩ => ⟨shapeRel.frameSandbox root rt rt' hs, fun i l hi => by
    rw [List.getElem?_drop, Nat.add_comm]
    exact hp (i + 2) l hi⟩

def plainsRel : StepRel :=
  framewise (fun l l' => ∀ d, l = .plain d → l' = .plain d) (fun _ _ h => h) (fun _ _ _ h1 h2 d h => h2 d (h1 d h))
    (fun _ _ _ _ h => nomatch h) (fun _ _ _ _ h => nomatch h) (fun _ _ _ _ h => nomatch h)

/-- **Plain frames are never written**: after rendering any template, every plain frame of the
start runtime (the caller's data, enclosing loop variables, enclosing include arguments) is still
in place and unchanged, and no frame was added or removed. -/
theorem renderT_keeps_plains (env : Env) (fuel : Nat) (t : Tmpl) (rt : Rt) (w : W) :
    ((renderT fuel env t rt w).2.1).layers.shape = rt.layers.shape ∧
    ∀ (i : Nat) (d : Obj), rt.layers[i]? = some (Layer.plain d) → ((renderT fuel env t rt w).2.1).layers[i]? = some (Layer.plain d) :=
  let ⟨hs, hp⟩ := Pres.renderT plainsRel env fuel t rt w
  ⟨hs, fun i d h => let ⟨_, e, r⟩ := hp i _ h; r d rfl ▸ e⟩

theorem renderN_keeps_plains (env : Env) (fuel : Nat) (n : Node) (rt : Rt) (w : W) :
    ((renderN fuel env n rt w).2.1).layers.shape = rt.layers.shape ∧
    ∀ (i : Nat) (d : Obj), rt.layers[i]? = some (Layer.plain d) → ((renderN fuel env n rt w).2.1).layers[i]? = some (Layer.plain d) :=
  let ⟨hs, hp⟩ := Pres.renderN plainsRel env fuel n rt w
  ⟨hs, fun i d h => let ⟨_, e, r⟩ := hp i _ h; r d rfl ▸ e⟩

/-- a global frame stays a global frame and keeps the names it binds (assignments persist:
`C04_global_keeps_names`) -/
def globalsGrow : StepRel :=
  framewise (fun l l' => ∀ g k, l = .global g → objContains g k = true → ∃ g', l' = .global g' ∧ objContains g' k = true)
    (fun _ g _ h hk => ⟨g, h, hk⟩)
    (fun _ _ _ h1 h2 g k h hk => let ⟨g1, e1, hk1⟩ := h1 g k h hk; h2 g1 k e1 hk1)
    (fun g k0 v g' k h hk => by cases h; exact ⟨_, rfl, C18.objContains_insert_other g k0 k v hk⟩)
    (fun _ _ _ _ _ h => nomatch h) (fun _ _ _ _ _ h => nomatch h)

end Liquid
