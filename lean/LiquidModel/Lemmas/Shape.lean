/-
  Frame discipline: no render step changes the number or the kinds of the frames of the runtime it
  was given (frames pushed inside are popped again).
-/
import LiquidModel.Lemmas.Pres
import LiquidModel.Lemmas.Stack
namespace Liquid

theorem setGlobal_shape {st st' : Stack} {k : Str} {v : V} (h : st.setGlobal k v = .ok st') :
    st'.shape = st.shape := by
  obtain ⟨a, g, b, _, rfl, rfl⟩ := Stack.setGlobal_ok h
  exact Stack.shape_append_cons a b rfl

theorem setIndex_shape {st st' : Stack} {k : Str} {v : V} (h : st.setIndex k v = .ok st') :
    st'.shape = st.shape := by
  obtain ⟨a, c, b, _, rfl, rfl⟩ := Stack.setIndex_ok h
  exact Stack.shape_append_cons a b rfl

theorem Stack.setRegs_shape (st : Stack) (core g : Regs) : (st.setRegs core g).1.shape = st.shape := by
  rcases Stack.setRegs_cases st core g with ⟨a, d, q, b, _, rfl, hr⟩ | ⟨_, hr⟩ <;> rw [hr]
  exact Stack.shape_append_cons a b rfl

theorem Rt.setRegs_shape (rt : Rt) (g : Regs) : (rt.setRegs g).layers.shape = rt.layers.shape :=
  Stack.setRegs_shape rt.layers rt.core g

def shapeRel : StepRel where
  R := fun rt rt' => rt'.layers.shape = rt.layers.shape
  refl := fun _ => rfl
  trans := fun _ _ _ h1 h2 => h2.trans h1
  setRegs := fun rt g => Rt.setRegs_shape rt g
  setGlobal := fun rt k v ls h => setGlobal_shape h
  setIndex := fun rt k v ls h => setIndex_shape h
  framePlain := by
    intro d rt rt' h
    simp only [Stack.shape, List.map_cons] at h ⊢
    rw [List.map_drop, h]; simp
  frameSandbox := by
    intro root rt rt' h
    simp only [Stack.shape, List.map_cons] at h ⊢
    rw [List.map_drop, h]; simp

/-- **Frames are balanced**: rendering any template leaves the runtime with exactly the frames
(number and kinds) it started with — whatever the outcome, whatever the sink. -/
theorem renderT_keeps_frames (env : Env) (fuel : Nat) (t : Tmpl) (rt : Rt) (w : W) :
    ((renderT fuel env t rt w).2.1).layers.shape = rt.layers.shape :=
  Pres.renderT shapeRel env fuel t rt w

theorem renderN_keeps_frames (env : Env) (fuel : Nat) (n : Node) (rt : Rt) (w : W) :
    ((renderN fuel env n rt w).2.1).layers.shape = rt.layers.shape :=
  Pres.renderN shapeRel env fuel n rt w

end Liquid
