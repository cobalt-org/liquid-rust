/-
  "Prints exactly": the Hoare triple `Prints m rt a s` (from `rt`, into a sink that cannot fail, `m`
  returns `a`, appends `s` and leaves `rt` as it was), its rules for the primitives, the pushed frame
  and the two loop drivers, and with them the `for` and `tablerow` tags over a body that only
  prints: one iteration, one cell, the bodies `{{ x }}` and `{{ forloop.field }}`.
-/
import LiquidModel.Lemmas.Pres
namespace Liquid.ForNode

theorem get_top_plain (d : Obj) (x : Str) (v : V) (below : Stack) :
    Stack.get (.plain (objInsert d x v) :: below) [.str x] = .ok v := by
  rw [Stack.get_tryGet, Stack.tryGet_name_cons, Layer.dict, C18.objInsert_get]
  rfl

theorem setRegs_plain_cons (d : Obj) (r : Stack) (core g : Regs) :
    Stack.setRegs (.plain d :: r) core g = (.plain d :: (Stack.setRegs r core g).1, (Stack.setRegs r core g).2) := rfl

theorem regs_plain_cons (d : Obj) (r : Stack) (core : Regs) :
    Stack.regs (.plain d :: r) core = Stack.regs r core := rfl

/-- the frame of iteration `i` of `len` over element `v` -/
def iterRoot (x : Str) (len : Nat) (parent v : V) (i : Nat) : Obj :=
  objInsert (objInsert [] "forloop".toList (forloopObj i len parent)) x v

/-- `m` returns `a`, leaves the runtime `rt` as it was and appends `s` to any sink that cannot fail:
the Hoare triple behind every "prints exactly" statement of C05 -/
def Prints {α} (m : M α) (rt : Rt) (a : α) (s : Str) : Prop :=
  ∀ w : W, w.budget = none → ∃ w', m rt w = (.ok a, rt, w') ∧ w'.budget = none ∧ w'.text = w.text ++ s

/-- `body` is a *pure printer* in the frame `root`: pushed on ANY runtime without pending interrupt
it succeeds, writes `s`, and leaves the runtime exactly as it was — `Prints` in the pushed frame,
for every such runtime (`WritesIn.prints`) -/
def WritesIn (body : M Unit) (root : Obj) (s : Str) : Prop :=
  ∀ (rt : Rt) (w : W), rt.regs.interrupt = none → w.budget = none →
    ∃ w', body { rt with layers := [Layer.plain root] ++ rt.layers } w
        = (.ok (), { rt with layers := [Layer.plain root] ++ rt.layers }, w') ∧
      w'.budget = none ∧ w'.text = w.text ++ s

theorem WritesIn.prints {body : M Unit} {root : Obj} {s : Str} (h : WritesIn body root s) (rt : Rt)
    (hi : rt.regs.interrupt = none) : Prints body { rt with layers := [Layer.plain root] ++ rt.layers } () s :=
  fun w hb => h rt w hi hb

theorem WritesIn.of_prints {body : M Unit} {root : Obj} {s : Str}
    (h : ∀ rt : Rt, Prints body { rt with layers := [Layer.plain root] ++ rt.layers } () s) : WritesIn body root s :=
  fun rt w _ hb => h rt w hb

namespace Prints

theorem pure {α} (a : α) (rt : Rt) : Prints (Pure.pure a : M α) rt a [] :=
  fun w hb => ⟨w, rfl, hb, (List.append_nil _).symm⟩

theorem emit (s : Str) (rt : Rt) : Prints (M.emit s) rt () s := fun _ hb => M.run_emit hb rt

theorem bind {α β} {m : M α} {f : α → M β} {rt : Rt} {a : α} {b : β} {s t : Str}
    (hm : Prints m rt a s) (hf : Prints (f a) rt b t) : Prints (m >>= f) rt b (s ++ t) := by
  intro w hb
  obtain ⟨w1, h1, hb1, ht1⟩ := hm w hb
  obtain ⟨w2, h2, hb2, ht2⟩ := hf w1 hb1
  exact ⟨w2, by rw [M.run_bind_ok _ _ _ _ _ _ _ h1, h2], hb2, by rw [ht2, ht1, List.append_assoc]⟩

/-- `bind` for a continuation that ignores its argument, which unification does not find from
`Prints (f a) …` -/
theorem seq {α β} {m : M α} {m' : M β} {rt : Rt} {a : α} {b : β} {s t : Str}
    (hm : Prints m rt a s) (hm' : Prints m' rt b t) : Prints (m >>= fun _ => m') rt b (s ++ t) :=
  bind hm hm'

theorem ite {α} (c : Prop) [Decidable c] {m1 m2 : M α} {rt : Rt} {a : α} {s t : Str}
    (h1 : Prints m1 rt a s) (h2 : Prints m2 rt a t) :
    Prints (if c then m1 else m2) rt a (if c then s else t) := by
  split <;> assumption

theorem inPlain {α} {m : M α} {root : Obj} {rt : Rt} {a : α} {s : Str}
    (h : Prints m { rt with layers := [Layer.plain root] ++ rt.layers } a s) :
    Prints (M.inFrames [.plain root] m) rt a s := by
  intro w hb
  obtain ⟨w', h', hb', ht⟩ := h w hb
  exact ⟨w', by unfold M.inFrames; rw [h']; rfl, hb', ht⟩

theorem loopItems {step : V → Nat → M (Option Intr)} {rt : Rt} {f : V → Nat → Str}
    (h : ∀ v i, Prints (step v i) rt none (f v i)) : ∀ (items : List V) (i : Nat),
      Prints (Liquid.loopItems step items i) rt () ((items.zipIdx i).map fun (v, j) => f v j).flatten
  | [], _ => pure () rt
  | v :: r, i => by
    rw [Liquid.loopItems, List.zipIdx_cons, List.map_cons, List.flatten_cons]
    exact bind (h v i) (loopItems h r (i + 1))

theorem tableItems {step : V → Nat → M Unit} {rt : Rt} {f : V → Nat → Str}
    (h : ∀ v i, Prints (step v i) rt () (f v i)) : ∀ (items : List V) (i : Nat),
      Prints (Liquid.tableItems step items i) rt () ((items.zipIdx i).map fun (v, j) => f v j).flatten
  | [], _ => pure () rt
  | v :: r, i => by
    rw [Liquid.tableItems, List.zipIdx_cons, List.map_cons, List.flatten_cons]
    exact bind (h v i) (tableItems h r (i + 1))

end Prints

theorem takeInterruptM_none (rt : Rt) (hi : rt.regs.interrupt = none) : Prints takeInterruptM rt none [] := by
  intro w hb
  have hg : ({ rt.regs with interrupt := none } : Regs) = rt.regs := by
    cases hr : rt.regs
    rw [hr] at hi
    cases hi
    rfl
  refine ⟨w, ?_, hb, (List.append_nil _).symm⟩
  simp only [takeInterruptM, M.bind'_getRegs, M.bind'_setRegs, M.run_pure, hg, Rt.setRegs_regs, hi]

theorem forStep_prints (x : Str) (len : Nat) (parent v : V) (i : Nat) (body : M Unit) (s : Str)
    (hbody : WritesIn body (iterRoot x len parent v i) s) (rt : Rt) (hi : rt.regs.interrupt = none) :
    Prints (forStep x len parent body v i) rt none s := by
  rw [← List.append_nil s]
  exact Prints.inPlain (Prints.bind (hbody.prints rt hi)
    (takeInterruptM_none { rt with layers := [Layer.plain (iterRoot x len parent v i)] ++ rt.layers } hi))

theorem prints_output (fuel : Nat) (env : Env) (e : Expr) (v : V) (rt : Rt)
    (h : evalChain env rt.layers e [] = .ok v) :
    Prints (renderList (renderN (fuel + 1) env) [.output e []]) rt () v.render := by
  intro w hb
  obtain ⟨w', hw, hb', ht⟩ := Prints.emit v.render rt w hb
  exact ⟨w', by simp [renderList, renderN, M.run_bind, h, hw], hb', ht⟩

theorem writesIn_var (fuel : Nat) (env : Env) (x : Str) (d : Obj) (v : V) :
    WritesIn (renderList (renderN (fuel + 1) env) [.output (.var x []) []]) (objInsert d x v) v.render := by
  refine .of_prints fun rt => prints_output fuel env _ v _ ?_
  simp [evalChain, Expr.eval, evalIdx, get_top_plain, bind, Res.bind, List.foldlM, pure]

/-- looking up `forloop.<field>` in an iteration frame whose loop variable is not itself called
`forloop`.  The field is given as an entry of the object's entry list (`hf`) and not through
`tryFind` on `forloopObj …`, so that neither this proof nor its users unfold the eight-entry literal:
`C05_forloop_truthful` speaks of `objGet` on the entries. -/
theorem get_forloop_field (x : Str) (len : Nat) (parent v : V) (i : Nat) (k : Str) (fv : V) (below : Stack)
    (hx : x ≠ "forloop".toList)
    (hf : ∃ kvs, forloopObj i len parent = .obj kvs ∧ objGet kvs k = some fv) :
    Stack.get (.plain (iterRoot x len parent v i) :: below) [.str "forloop".toList, .str k] = .ok fv := by
  obtain ⟨kvs, hobj, hk⟩ := hf
  have hg : objGet (iterRoot x len parent v i) "forloop".toList = some (forloopObj i len parent) := by
    unfold iterRoot
    rw [C18.objInsert_get_other _ _ _ _ (Ne.symm hx), C18.objInsert_get]
  have hc := C18.contains_of_objGet hg
  have ht : tryFind (.obj (iterRoot x len parent v i)) [.str "forloop".toList, .str k] = some fv := by
    simp only [tryFind, augGet, Sc.render, hg, hobj, hk]
  rw [C18.get_cons, Layer.dict, Sc.render, if_pos hc, ht]
  rfl

theorem writesIn_path2 (fuel : Nat) (env : Env) (root : Obj) (r k : Str) (fv : V)
    (hget : ∀ below, Stack.get (.plain root :: below) [.str r, .str k] = .ok fv) :
    WritesIn (renderList (renderN (fuel + 1) env) [.output (.var r [.lit (.sc (.str k))]) []]) root fv.render := by
  refine .of_prints fun rt => prints_output fuel env _ fv _ ?_
  simp [evalChain, Expr.eval, evalIdx, hget rt.layers, bind, Res.bind, List.foldlM, pure]

theorem writesIn_forloop_field (fuel : Nat) (env : Env) (x : Str) (len : Nat) (parent v : V) (i : Nat)
    (k : Str) (fv : V) (hx : x ≠ "forloop".toList)
    (hf : ∃ kvs, forloopObj i len parent = .obj kvs ∧ objGet kvs k = some fv) :
    WritesIn (renderList (renderN (fuel + 1) env) [.output (.var "forloop".toList [.lit (.sc (.str k))]) []])
      (iterRoot x len parent v i) fv.render :=
  writesIn_path2 fuel env _ _ k fv (fun below => get_forloop_field x len parent v i k fv below hx hf)

/-- the frame of cell `i` of `len` in a table of `ncols` columns -/
def cellRoot (x : Str) (len ncols : Nat) (v : V) (i : Nat) : Obj :=
  objInsert (objInsert [] "tablerow".toList (tablerowObj i len (i % ncols) (usizeAsI64 ncols))) x v

/-- what one cell writes around the body's text `s` -/
def cellText (len ncols i : Nat) (s : Str) : Str :=
  (if i % ncols == 0 then "<tr class=\"row".toList ++ natDigits (i / ncols + 1) ++ "\">".toList else []) ++
  ("<td class=\"col".toList ++ natDigits (i % ncols + 1) ++ "\">".toList) ++ s ++ "</td>".toList ++
  (if (((i % ncols : Nat) : Int) + 1 == usizeAsI64 ncols) || ((i : Int) == (len : Int) - 1) then "</tr>".toList else [])

theorem tablerowStep_prints (x : Str) (len ncols : Nat) (hn : ncols ≠ 0) (v : V) (i : Nat) (body : M Unit) (s : Str)
    (hbody : WritesIn body (cellRoot x len ncols v i) s) (rt : Rt) (hi : rt.regs.interrupt = none) :
    Prints (tablerowStep x len ncols body v i) rt () (cellText len ncols i s) := by
  have hn' : (ncols == 0) = false := by simpa using hn
  have hin : Prints (M.inFrames [.plain (cellRoot x len ncols v i)] body) rt () s :=
    Prints.inPlain (hbody.prints rt hi)
  unfold tablerowStep cellText
  unfold cellRoot at hin
  simp only [hn', Bool.false_eq_true, if_false]
  -- the pieces are opaque from here on, so that reassociating `++` does not look inside them
  generalize ((((i % ncols : Nat) : Int) + 1 == usizeAsI64 ncols) || ((i : Int) == (len : Int) - 1)) = colLast
  generalize ("<tr class=\"row".toList ++ natDigits (i / ncols + 1) ++ "\">".toList) = sRow
  generalize ("<td class=\"col".toList ++ natDigits (i % ncols + 1) ++ "\">".toList) = sCol
  generalize objInsert (objInsert [] "tablerow".toList (tablerowObj i len (i % ncols) (usizeAsI64 ncols))) x v = root at hin
  have cell := (Prints.emit sCol rt).seq (hin.seq ((Prints.emit "</td>".toList rt).seq
    (Prints.ite (colLast = true) (Prints.emit "</tr>".toList rt) (Prints.pure () rt))))
  by_cases hc0 : (i % ncols == 0) = true <;> simp only [hc0, if_true, Bool.false_eq_true, if_false]
  · simpa only [List.append_assoc] using (Prints.emit sRow rt).seq cell
  · simpa only [List.append_assoc, List.nil_append] using cell

end Liquid.ForNode
