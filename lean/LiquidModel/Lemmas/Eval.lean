/-
  The pure evaluators the interpreter lifts (`Expr.eval`, `Cond.eval`, ranges, attributes, case arms,
  include/render arguments, filter chains): they return a value or a Liquid error and nothing else,
  and they read the stack only through `get`, `try_get` and the counters.
-/
import LiquidModel.Model.Render
import LiquidModel.Lemmas.Stack
import LiquidModel.Lemmas.Res
namespace Liquid

/-! ### every evaluator is plain -/

theorem Stack.get_plain (st : Stack) (p : List Sc) : (st.get p).plain = true := by
  rw [Stack.get_tryGet]; cases st.tryGet p <;> rfl

mutual
theorem Expr.eval_plain (st : Stack) : ∀ e : Expr, (e.eval st).plain = true
  | .lit v => rfl
  | .var root idx => by
    have h := evalIdx_plain st idx
    rw [Expr.eval]
    cases hi : evalIdx st idx with
    | ok p => exact Stack.get_plain st _
    | err => rfl
    | _ => rw [hi] at h; cases h
theorem evalIdx_plain (st : Stack) : ∀ es : List Expr, (evalIdx st es).plain = true
  | [] => rfl
  | e :: r => by
    have h1 := Expr.eval_plain st e
    have h2 := evalIdx_plain st r
    rw [evalIdx]
    cases he : e.eval st with
    | ok v =>
      cases v with
      | sc s => cases hr : evalIdx st r <;> first | rfl | (rw [hr] at h2; cases h2)
      | _ => rfl
    | err => rfl
    | _ => rw [he] at h1; cases h1
end

theorem cmpOpEval_plain (op : CmpOp) (a b : V) : (cmpOpEval op a b).plain = true := by
  cases op <;> try rfl
  cases a <;> try rfl
  cases b <;> rfl

theorem Cond.eval_plain (st : Stack) : ∀ c : Cond, (c.eval st).plain = true
  | .bin l op r =>
    Res.plain_bind (Expr.eval_plain st l) fun a => Res.plain_bind (Expr.eval_plain st r) fun b => cmpOpEval_plain op a b
  | .exist e => rfl
  | .and a b => Res.plain_bind (Cond.eval_plain st a) fun x => by cases x <;> first | rfl | exact Cond.eval_plain st b
  | .or a b => Res.plain_bind (Cond.eval_plain st a) fun x => by cases x <;> first | rfl | exact Cond.eval_plain st b

theorem intArg_plain (st : Stack) (e : Expr) : (intArg st e).plain = true :=
  Res.plain_bind (Expr.eval_plain st e) fun v => by
    cases v with
    | sc s => dsimp only; cases s.toInteger? <;> rfl
    | _ => rfl

theorem RangeE.eval_plain (st : Stack) : ∀ r : RangeE, (r.eval st).plain = true
  | .arr e => Res.plain_bind (Expr.eval_plain st e) fun v => by
    cases v with
    | sc s => cases s <;> rfl
    | _ => rfl
  | .counted a b => Res.plain_bind (intArg_plain st a) fun _ => Res.plain_bind (intArg_plain st b) fun _ => rfl

theorem evalAttr_plain (st : Stack) : ∀ o : Option Expr, (evalAttr st o).plain = true
  | none => rfl
  | some e => Res.plain_bind (Expr.eval_plain st e) fun v => by
    cases v with
    | sc s => dsimp only; cases s.toInteger? <;> rfl
    | _ => rfl

theorem evalVars_plain (st : Stack) : ∀ (vs : List (Str × Expr)) (acc : Obj), (evalVars st vs acc).plain = true
  | [], _ => rfl
  | (k, e) :: r, acc => by
    rw [evalVars]
    cases e.tryEval st with
    | some v => exact evalVars_plain st r _
    | none => rfl

theorem evalArgs_plain (st : Stack) : ∀ es : List Expr, (evalArgs st es).plain = true
  | [] => rfl
  | e :: r => Res.plain_bind (Expr.eval_plain st e) fun _ => Res.plain_bind (evalArgs_plain st r) fun _ => rfl

theorem anyEqArgs_plain (st : Stack) (value : V) : ∀ es : List Expr, (anyEqArgs st value es).plain = true
  | [] => rfl
  | a :: r => by
    have h := Expr.eval_plain st a
    rw [anyEqArgs]
    cases he : a.eval st with
    | ok v => dsimp only; split <;> first | rfl | exact anyEqArgs_plain st value r
    | err => rfl
    | _ => rw [he] at h; cases h

theorem casePick_spec (st : Stack) (value : V) : ∀ arms : List (List Expr × List Node),
    (casePick st value arms).plain = true ∧
      ∀ b, casePick st value arms = .ok (some b) → b ∈ arms.map (·.2)
  | [] => ⟨rfl, fun _ h => by cases h⟩
  | (args, body) :: r => by
    have h := anyEqArgs_plain st value args
    have ih := casePick_spec st value r
    rw [casePick]
    cases ha : anyEqArgs st value args with
    | ok c =>
      cases c
      · exact ⟨ih.1, fun b hb => List.mem_cons_of_mem _ (ih.2 b hb)⟩
      · exact ⟨rfl, fun b hb => by cases hb; exact List.mem_cons_self⟩
    | err => exact ⟨rfl, fun _ hb => by cases hb⟩
    | _ => rw [ha] at h; cases h

theorem foldlM_res {α β} (f : β → α → Res β) (P : Res β → Prop) (hok : ∀ b, P (.ok b))
    (hf : ∀ b a, P (f b a)) : ∀ (l : List α) (b : β), P (l.foldlM f b)
  | [], b => hok b
  | a :: r, b => by
    rw [List.foldlM_cons]
    have h := hf b a
    cases hr : f b a with
    | ok b' => exact foldlM_res f P hok hf r b'
    | _ => rw [hr] at h; exact h

theorem evalChain_cases (env : Env) (st : Stack) (e : Expr) (fs : List FCall) :
    (evalChain env st e fs).plain = true ∨
      ∃ name f v args, env.filters name = some f ∧ evalChain env st e fs = f v args := by
  have he := Expr.eval_plain st e
  unfold evalChain
  cases hv : e.eval st with
  | ok v =>
    refine foldlM_res _ (fun r => r.plain = true ∨ ∃ name f v args, env.filters name = some f ∧ r = f v args)
      (fun _ => .inl rfl) (fun acc c => ?_) fs v
    have ha := evalArgs_plain st c.args
    cases hargs : evalArgs st c.args with
    | ok args =>
      cases hf : env.filters c.name with
      | none => exact .inl rfl
      | some fn => exact .inr ⟨_, fn, acc, args, hf, rfl⟩
    | err => exact .inl rfl
    | _ => rw [hargs] at ha; cases ha
  | err => exact .inl rfl
  | _ => rw [hv] at he; cases he

end Liquid

/-! ### stacks that look the same give the same results

`f_low`: the evaluator `f` gives equal results on two stacks with the same view (in the words of
information flow, the view is the low part of the state and the evaluators read nothing else). -/

namespace Liquid.NI

/-- the three operations through which the evaluators read a stack agree -/
structure SameView (s1 s2 : Stack) : Prop where
  get : ∀ p, s1.get p = s2.get p
  tryGet : ∀ p, s1.tryGet p = s2.tryGet p
  idx : ∀ k, s1.getIndex k = s2.getIndex k

theorem SameView.refl (s : Stack) : SameView s s := ⟨fun _ => rfl, fun _ => rfl, fun _ => rfl⟩

section evaluators
variable {s1 s2 : Stack} (h : SameView s1 s2)
include h

section
-- `evalIdx_low` and `tryEvalIdx_low` have `h` through the mutual call only, which the linter does not see
set_option linter.unusedSectionVars false

mutual
theorem eval_low : ∀ e : Expr, e.eval s1 = e.eval s2
  | .lit v => rfl
  | .var root idx => by
    simp only [Expr.eval]
    rw [evalIdx_low idx]
    cases evalIdx s2 idx <;> simp [h.get]
theorem evalIdx_low : ∀ es : List Expr, evalIdx s1 es = evalIdx s2 es
  | [] => rfl
  | e :: r => by
    simp only [evalIdx]
    rw [eval_low e, evalIdx_low r]
end

mutual
theorem tryEval_low : ∀ e : Expr, e.tryEval s1 = e.tryEval s2
  | .lit v => rfl
  | .var root idx => by
    simp only [Expr.tryEval]
    rw [tryEvalIdx_low idx]
    cases tryEvalIdx s2 idx <;> simp [h.tryGet]
theorem tryEvalIdx_low : ∀ es : List Expr, tryEvalIdx s1 es = tryEvalIdx s2 es
  | [] => rfl
  | e :: r => by
    simp only [tryEvalIdx]
    rw [tryEval_low e, tryEvalIdx_low r]
end

end

theorem cond_low : ∀ c : Cond, c.eval s1 = c.eval s2
  | .bin l op r => by simp only [Cond.eval]; rw [eval_low h l, eval_low h r]
  | .exist e => by simp only [Cond.eval]; rw [tryEval_low h e]
  | .and a b => by simp only [Cond.eval]; rw [cond_low a, cond_low b]
  | .or a b => by simp only [Cond.eval]; rw [cond_low a, cond_low b]

theorem intArg_low (e : Expr) : intArg s1 e = intArg s2 e := by
  simp only [intArg]; rw [eval_low h e]

theorem range_low (r : RangeE) : r.eval s1 = r.eval s2 := by
  cases r with
  | arr e => simp only [RangeE.eval]; rw [eval_low h e]
  | counted a b => simp only [RangeE.eval]; rw [intArg_low h a, intArg_low h b]

theorem attr_low (o : Option Expr) : evalAttr s1 o = evalAttr s2 o := by
  cases o with
  | none => rfl
  | some e => simp only [evalAttr]; rw [eval_low h e]

theorem args_low : ∀ es : List Expr, evalArgs s1 es = evalArgs s2 es
  | [] => rfl
  | e :: r => by simp only [evalArgs]; rw [eval_low h e, args_low r]

theorem chain_low (env : Env) (e : Expr) (fs : List FCall) : evalChain env s1 e fs = evalChain env s2 e fs := by
  have : evalArgs s1 = evalArgs s2 := funext (args_low h)
  simp only [evalChain, eval_low h e, this]

theorem vars_low : ∀ (vs : List (Str × Expr)) (acc : Obj), evalVars s1 vs acc = evalVars s2 vs acc
  | [], _ => rfl
  | (k, e) :: r, acc => by
    simp only [evalVars]; rw [tryEval_low h e]
    cases e.tryEval s2 with
    | none => rfl
    | some v => exact vars_low r _

theorem anyEq_low (value : V) : ∀ es : List Expr, anyEqArgs s1 value es = anyEqArgs s2 value es
  | [] => rfl
  | a :: r => by
    simp only [anyEqArgs]; rw [eval_low h a]
    cases a.eval s2 with
    | ok v =>
      dsimp only
      split
      · rfl
      · exact anyEq_low value r
    | _ => rfl

theorem casePick_low (value : V) : ∀ arms, casePick s1 value arms = casePick s2 value arms
  | [] => rfl
  | (args, body) :: r => by
    simp only [casePick]; rw [anyEq_low h value args, casePick_low value r]

theorem counter_low (x : Str) : counterVal s1 x = counterVal s2 x := by
  simp only [counterVal]; rw [h.idx x]

end evaluators

end Liquid.NI

namespace Liquid
open NI

/-- what the interpreter needs of a pure evaluator: it returns a value or a Liquid error, and the same
on stacks that look alike -/
structure PureEval {α} (f : Stack → Res α) : Prop where
  plain : ∀ s, (f s).plain = true
  low : ∀ {s1 s2}, SameView s1 s2 → f s1 = f s2

theorem Expr.pureEval (e : Expr) : PureEval (Expr.eval · e) := ⟨(Expr.eval_plain · e), (eval_low · e)⟩
theorem Cond.pureEval (c : Cond) : PureEval (Cond.eval · c) := ⟨(Cond.eval_plain · c), (cond_low · c)⟩
theorem RangeE.pureEval (r : RangeE) : PureEval (RangeE.eval · r) := ⟨(RangeE.eval_plain · r), (range_low · r)⟩
theorem evalAttr_pureEval (o : Option Expr) : PureEval (evalAttr · o) := ⟨(evalAttr_plain · o), (attr_low · o)⟩
theorem evalVars_pureEval (vs : List (Str × Expr)) : PureEval (evalVars · vs []) :=
  ⟨(evalVars_plain · vs []), (vars_low · vs [])⟩
theorem casePick_pureEval (value : V) (arms : List (List Expr × List Node)) : PureEval (casePick · value arms) :=
  ⟨fun s => (casePick_spec s value arms).1, (casePick_low · value arms)⟩

end Liquid
