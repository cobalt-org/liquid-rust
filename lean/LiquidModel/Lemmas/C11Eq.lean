/-
  C11 helper lemmas: `value_eq`.  Two arrays are equal when they agree position by position, two
  objects with distinct keys when their key-sorted entry lists do (`valueEq_arr_iff`,
  `valueEq_obj_iff`); symmetry and reflexivity are then facts about `List.Forall₂`.
-/
import LiquidModel.Lemmas.C11Base
import LiquidModel.Lemmas.C11Scalar
import LiquidModel.Lemmas.C11Sort
import Batteries.Data.List.Perm
namespace Liquid.C11L
open Liquid Liquid.C11

/-! `valueEq`, `eqZip`, `eqObj`, `eqGet` are defined by well-founded recursion (on the size of their
arguments); the proofs unfold them by these equations only. -/

theorem valueEq_arr (xs ys : List V) :
    valueEq (.arr xs) (.arr ys) = (xs.length == ys.length && eqZip xs ys) := valueEq.eq_1 xs ys

theorem valueEq_obj (xs ys : Obj) :
    valueEq (.obj xs) (.obj ys) = (xs.length == ys.length && eqObj xs ys) := valueEq.eq_2 xs ys

theorem valueEq_flat {a b : V} (h : flat a b = true) : valueEq a b = valueEqFlat a b := by
  apply valueEq.eq_3 <;> (rintro _ _ rfl rfl; exact Bool.false_ne_true h)

theorem eqZip_nil_left (ys : List V) : eqZip [] ys = true := by rw [eqZip.eq_def]
theorem eqZip_nil_right (xs : List V) : eqZip xs [] = true := by rw [eqZip.eq_def]; cases xs <;> rfl
theorem eqZip_cons (x : V) (xs : List V) (y : V) (ys : List V) :
    eqZip (x :: xs) (y :: ys) = (valueEq x y && eqZip xs ys) := by rw [eqZip.eq_def]

theorem eqGet_eq (ys : Obj) (k : Str) (v : V) :
    eqGet ys k v = match objGet ys k with | some w => valueEq w v | none => false := by
  induction ys with
  | nil => rw [eqGet.eq_def]; rfl
  | cons e r ih =>
    obtain ⟨k', w⟩ := e
    rw [eqGet.eq_def, objGet_cons]
    by_cases h : k' = k <;> simp [h, ih]

theorem eqGet_cons_ne (k' : Str) (w : V) (r : Obj) (k : Str) (v : V) (h : k' ≠ k) :
    eqGet ((k', w) :: r) k v = eqGet r k v := by
  rw [eqGet_eq, eqGet_eq, objGet_cons, if_neg h]

theorem eqGet_cons_eq (k : Str) (w : V) (r : Obj) (v : V) : eqGet ((k, w) :: r) k v = valueEq w v := by
  rw [eqGet_eq, objGet_cons, if_pos rfl]

theorem eqObj_nil (ys : Obj) : eqObj [] ys = true := by rw [eqObj.eq_def]
theorem eqObj_cons (k : Str) (v : V) (r ys : Obj) :
    eqObj ((k, v) :: r) ys = (eqGet ys k v && eqObj r ys) := by rw [eqObj.eq_def]

theorem eqObj_eq (xs ys : Obj) : eqObj xs ys = xs.all (fun e => eqGet ys e.1 e.2) := by
  induction xs with
  | nil => simp [eqObj_nil]
  | cons e r ih =>
    obtain ⟨k, v⟩ := e
    simp [eqObj_cons, ih]

theorem eqObj_iff (xs ys : Obj) :
    eqObj xs ys = true ↔ ∀ e ∈ xs, ∃ w, objGet ys e.1 = some w ∧ valueEq w e.2 = true := by
  rw [eqObj_eq, List.all_eq_true]
  constructor
  · intro h e he
    have := h e he
    rw [eqGet_eq] at this
    cases hg : objGet ys e.1 with
    | none => simp [hg] at this
    | some w => simp only [hg] at this; exact ⟨w, rfl, this⟩
  · intro h e he
    obtain ⟨w, hw, hv⟩ := h e he
    rw [eqGet_eq, hw]; exact hv

section forall₂
variable {α β α' β' : Type}

theorem forall₂_swap_congr {R : α → β → Prop} {S : β → α → Prop} (xs : List α) (ys : List β)
    (H : ∀ x ∈ xs, ∀ y ∈ ys, R x y ↔ S y x) : List.Forall₂ R xs ys ↔ List.Forall₂ S ys xs := by
  induction xs, ys using zipInduct with
  | nil_nil => exact ⟨fun _ => .nil, fun _ => .nil⟩
  | nil_cons | cons_nil => exact ⟨nofun, nofun⟩
  | cons_cons x xs y ys ih =>
    rw [List.forall₂_cons, List.forall₂_cons, H x (.head _) y (.head _),
      ih fun x hx y hy => H x (.tail _ hx) y (.tail _ hy)]

theorem forall₂_map_congr {R : α → β → Prop} {S : α' → β' → Prop} (f : α → α') (g : β → β')
    (xs : List α) (ys : List β) (H : ∀ x ∈ xs, ∀ y ∈ ys, S (f x) (g y) ↔ R x y) :
    List.Forall₂ S (xs.map f) (ys.map g) ↔ List.Forall₂ R xs ys := by
  induction xs, ys using zipInduct with
  | nil_nil => exact ⟨fun _ => .nil, fun _ => .nil⟩
  | nil_cons | cons_nil => exact ⟨nofun, nofun⟩
  | cons_cons x xs y ys ih =>
    rw [List.map_cons, List.map_cons, List.forall₂_cons, List.forall₂_cons, H x (.head _) y (.head _),
      ih fun x hx y hy => H x (.tail _ hx) y (.tail _ hy)]

theorem forall₂_same {R : α → α → Prop} (xs : List α) (H : ∀ x ∈ xs, R x x) : List.Forall₂ R xs xs := by
  induction xs with
  | nil => exact .nil
  | cons x xs ih => exact .cons (H x (.head _)) (ih fun x hx => H x (.tail _ hx))

end forall₂

theorem valueEq_arr_iff (xs ys : List V) :
    valueEq (.arr xs) (.arr ys) = true ↔ List.Forall₂ (fun x y => valueEq x y = true) xs ys := by
  rw [valueEq_arr]
  induction xs, ys using zipInduct with
  | nil_nil => exact ⟨fun _ => .nil, fun _ => eqZip_nil_left _⟩
  | nil_cons | cons_nil => exact ⟨nofun, nofun⟩
  | cons_cons x xs y ys ih =>
    rw [List.forall₂_cons, ← ih, eqZip_cons]
    simp only [List.length_cons, Bool.and_eq_true, beq_iff_eq, Nat.add_right_cancel_iff]
    exact ⟨fun ⟨h1, h2, h3⟩ => ⟨h2, h1, h3⟩, fun ⟨h2, h1, h3⟩ => ⟨h1, h2, h3⟩⟩

theorem eqObj_perm {xs xs' ys ys' : Obj} (hx : xs.Perm xs') (hy : ys.Perm ys') (hn : (keysOf ys).Nodup) :
    eqObj xs ys = eqObj xs' ys' := by
  rw [eqObj_eq, eqObj_eq, hx.all_eq]
  congr 1
  funext e
  rw [eqGet_eq, eqGet_eq, objGet_perm hy hn]

theorem valueEq_obj_perm {xs xs' ys ys' : Obj} (hx : xs.Perm xs') (hy : ys.Perm ys') (hn : (keysOf ys).Nodup) :
    valueEq (.obj xs) (.obj ys) = valueEq (.obj xs') (.obj ys') := by
  rw [valueEq_obj, valueEq_obj, eqObj_perm hx hy hn, hx.length_eq, hy.length_eq]

/-- pigeonhole: distinct keys, every entry matched in `ys`, same number of entries ⇒ `ys` has no
further keys -/
theorem keys_perm_of_eqObj {xs ys : Obj} (hn : (keysOf xs).Nodup) (hlen : xs.length = ys.length)
    (h : eqObj xs ys = true) : (keysOf xs).Perm (keysOf ys) := by
  refine (List.subperm_of_subset hn fun k hk => ?_).perm_of_length_le (by simp [keysOf, hlen])
  obtain ⟨v, hv⟩ := mem_keysOf.1 hk
  obtain ⟨w, hw, _⟩ := (eqObj_iff xs ys).1 h (k, v) hv
  exact mem_keysOf.2 ⟨w, objGet_some_mem ys hw⟩

theorem keys_eq_of_eqObj (xs ys : Obj) (hx : xs.Pairwise ltK) (hy : ys.Pairwise ltK)
    (hlen : xs.length = ys.length) (h : eqObj xs ys = true) : keysOf xs = keysOf ys :=
  List.Perm.eq_of_pairwise (fun _ _ _ _ hab hba => absurd hba (strCmp_lt_asymm hab))
    (keys_strict hx) (keys_strict hy) (keys_perm_of_eqObj (nodup_of_strict hx) hlen h)

theorem eqObj_cons_irrelevant (xs : Obj) (k : Str) (w : V) (r : Obj) (h : ∀ e ∈ xs, e.1 ≠ k) :
    eqObj xs ((k, w) :: r) = eqObj xs r := by
  rw [eqObj_eq, eqObj_eq, Bool.eq_iff_iff, List.all_eq_true, List.all_eq_true]
  exact forall₂_congr fun e he => by rw [eqGet_cons_ne k w r e.1 e.2 fun hk => h e he hk.symm]

theorem eqObj_cons_cons (k : Str) (x y : V) (xs ys : Obj) (hx : ((k, x) :: xs).Pairwise ltK) :
    eqObj ((k, x) :: xs) ((k, y) :: ys) = (valueEq y x && eqObj xs ys) := by
  rw [eqObj_cons, eqGet_cons_eq, eqObj_cons_irrelevant]
  intro e he hek
  have := (List.pairwise_cons.1 hx).1 e he
  rw [ltK, hek, strCmp_refl] at this; cases this

/-- same key, equal values (the right value on the left, as `value_eq` has it) -/
abbrev entryEq (e e' : Str × V) : Prop := e.1 = e'.1 ∧ valueEq e'.2 e.2 = true

theorem eqObj_iff_forall₂ (xs ys : Obj) (hx : xs.Pairwise ltK) (hy : ys.Pairwise ltK) :
    (xs.length == ys.length && eqObj xs ys) = true ↔ List.Forall₂ entryEq xs ys := by
  rw [Bool.and_eq_true, beq_iff_eq]
  constructor
  · rintro ⟨hl, h⟩
    have hk := keys_eq_of_eqObj xs ys hx hy hl h
    clear hl
    induction xs, ys using zipInduct with
    | nil_nil => exact .nil
    | nil_cons | cons_nil => cases hk
    | cons_cons e xs e' ys ih =>
      obtain ⟨k, x⟩ := e
      obtain ⟨k', y⟩ := e'
      injection hk with hk1 hk2
      subst hk1
      rw [eqObj_cons_cons k x y xs ys hx, Bool.and_eq_true] at h
      exact .cons ⟨rfl, h.1⟩ (ih (List.pairwise_cons.1 hx).2 (List.pairwise_cons.1 hy).2 h.2 hk2)
  · intro h
    induction h with
    | nil => exact ⟨rfl, eqObj_nil _⟩
    | @cons e e' xs ys he _ ih =>
      obtain ⟨k, x⟩ := e
      obtain ⟨k', y⟩ := e'
      obtain ⟨rfl, hv⟩ : k = k' ∧ _ := he
      obtain ⟨hl, h⟩ := ih (List.pairwise_cons.1 hx).2 (List.pairwise_cons.1 hy).2
      rw [eqObj_cons_cons k x y xs ys hx, hv, h, List.length_cons, List.length_cons, hl]
      exact ⟨rfl, rfl⟩

theorem valueEq_obj_iff {xs ys : Obj} (hx : (keysOf xs).Nodup) (hy : (keysOf ys).Nodup) :
    valueEq (.obj xs) (.obj ys) = true ↔ List.Forall₂ entryEq (sortK xs) (sortK ys) := by
  rw [valueEq_obj_perm (sortK_perm xs).symm (sortK_perm ys).symm hy, valueEq_obj]
  exact eqObj_iff_forall₂ _ _ (sortK_strict xs hx) (sortK_strict ys hy)

theorem wfv_arr (xs : List V) : WFV (.arr xs) = true ↔ ∀ x ∈ xs, WFV x = true := by
  unfold WFV; rw [every_arr]; exact and_iff_right rfl

theorem wfv_obj (kvs : Obj) : WFV (.obj kvs) = true ↔ (keysOf kvs).Nodup ∧ ∀ e ∈ kvs, WFV e.2 = true := by
  unfold WFV; rw [every_obj, isKeysNodup, keysNodup_iff, keys_eq_keysOf]

theorem wfv_obj_keys {kvs : Obj} (h : WFV (.obj kvs) = true) : (keysOf kvs).Nodup := ((wfv_obj kvs).1 h).1

theorem valueEqFlat_symm (a b : V) (ha : isNoTruthy a = true) (hb : isNoTruthy b = true) :
    valueEqFlat a b = valueEqFlat b a := by
  -- every row of the table reads the same in both directions, except marker/marker and scalar/scalar
  cases a with
  | st s =>
    cases b with
    | st s' =>
      cases s with
      | truthy => cases ha
      | _ => cases s' with
        | truthy => cases hb
        | _ => rfl
    | _ => rfl
  | sc x =>
    cases b with
    | sc y => exact scalarEq_symm x y
    | _ => rfl
  | _ => cases b <;> rfl

theorem valueEq_symm : ∀ a b : V,
    NoTruthy a = true → NoTruthy b = true → WFV a = true → WFV b = true → valueEq a b = valueEq b a := by
  refine pairInduct ?_ ?_ ?_
  · intro xs ys ih hta htb hwa hwb
    rw [Bool.eq_iff_iff, valueEq_arr_iff, valueEq_arr_iff]
    exact forall₂_swap_congr xs ys fun x hx y hy => by
      rw [ih x hx y hy (every_arr_mem hta hx) (every_arr_mem htb hy) (every_arr_mem hwa hx) (every_arr_mem hwb hy)]
  · intro xs ys ih hta htb hwa hwb
    have hnx := wfv_obj_keys hwa
    have hny := wfv_obj_keys hwb
    rw [Bool.eq_iff_iff, valueEq_obj_iff hnx hny, valueEq_obj_iff hny hnx]
    refine forall₂_swap_congr _ _ fun e he e' he' => and_congr eq_comm ?_
    have he := (mem_sortK _ _).1 he
    have he' := (mem_sortK _ _).1 he'
    rw [(ih e he e' he').1 (every_obj_mem hta he) (every_obj_mem htb he') (every_obj_mem hwa he) (every_obj_mem hwb he')]
  · intro a b h hta htb _ _
    rw [valueEq_flat h, valueEq_flat (flat_comm h)]
    exact valueEqFlat_symm a b (every_top _ _ hta) (every_top _ _ htb)

theorem valueEq_refl : ∀ a : V, NoTruthy a = true → WFV a = true → NaNFree a = true → valueEq a a = true := by
  intro a
  induction a using valueInduct with
  | nil => intros; rw [valueEq_flat rfl]; rfl
  | st s => intro ht _ _; rw [valueEq_flat rfl]; cases s <;> first | rfl | cases ht
  | sc x => intro _ _ hn; rw [valueEq_flat rfl]; exact scalarEq_refl x hn
  | arr xs ih =>
    intro ht hw hn
    rw [valueEq_arr_iff]
    exact forall₂_same xs fun x hx => ih x hx (every_arr_mem ht hx) (every_arr_mem hw hx) (every_arr_mem hn hx)
  | obj kvs ih =>
    intro ht hw hn
    rw [valueEq_obj, beq_self_eq_true, Bool.true_and, eqObj_iff]
    exact fun e he => ⟨e.2, objGet_of_mem kvs (wfv_obj_keys hw) he,
      ih e he (every_obj_mem ht he) (every_obj_mem hw he) (every_obj_mem hn he)⟩

end Liquid.C11L
